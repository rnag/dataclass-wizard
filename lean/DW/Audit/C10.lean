import DW.Props.C10
#print axioms DW.Props.C10.C10_raise_rejects
#print axioms DW.Props.C10.C10_raise_names_unknown_key
#print axioms DW.Props.C10.C10_catchall_exact
#print axioms DW.Props.C10.C10_mapped_unaffected
#print axioms DW.Props.C10.C10_v1_len_test_exact
#print axioms DW.Props.C10.C10_v1_raise_rejects
#print axioms DW.Props.C10.C10_v1_raise_accepts_clean
#print axioms DW.Props.C10.C10_v1_raise_names_exactly_unknown
#print axioms DW.Props.C10.C10_v1_catchall_exact
#print axioms DW.Props.C10.C10_v1_catchall_argument
#print axioms DW.Props.C10.C10_v1_tag_key_never_extra
#print axioms DW.Props.C10.C10_v1_ignore_drops
#print axioms DW.Props.C10.C10_v1_mapped_unaffected
#print axioms DW.Props.C10.C10_v1_raise_two_spellings_witness
#print axioms DW.Props.C10.C10_writeback_whatever_dump_settings_partial
#print axioms DW.Props.C10.C10_writeback_keys_as_given
#print axioms DW.Props.C10.C10_writeback_lost_under_skip_defaults_if
#print axioms DW.Props.C10.C10_generated_code_writes_back
