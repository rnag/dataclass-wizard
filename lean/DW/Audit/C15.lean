import DW.Props.C15
#print axioms DW.Props.C15.C15_repr_roundtrip
#print axioms DW.Props.C15.C15_repr_examples
#print axioms DW.Props.C15.C15_type_local_indexed
#print axioms DW.Props.C15.C15_field_var_fresh
#print axioms DW.Props.C15.C15_field_var_injective
#print axioms DW.Props.C15.C15_fixed_names_not_field_vars
#print axioms DW.Props.C15.C15_fixed_names_indexed_families
#print axioms DW.Props.C15.C15_type_local_fresh
#print axioms DW.Props.C15.C15_battery_well_scoped
#print axioms DW.Props.C15.C15_derived_shapes
#print axioms DW.Props.C15.C15_gendump_well_scoped
#print axioms DW.Props.C15.C15_gendump_well_scoped_py
#print axioms DW.Props.C15.C15_gendump_rule_is_pythons
#print axioms DW.Props.C15.C15_gendump_old_rule_unbound
#print axioms DW.Props.C15.C15_genload_well_scoped
#print axioms DW.Props.C15.C15_genload_well_scoped_py
#print axioms DW.Props.C15.C15_geninit_well_scoped
#print axioms DW.Props.C15.C15_geninit_well_scoped_py
#print axioms DW.Props.C15.C15_geninit_defaults_bound
#print axioms DW.Props.C15.C15_geninit_name_is_literal
#print axioms DW.Props.C15.C15_genloadv1_well_scoped
#print axioms DW.Props.C15.C15_genloadv1_well_scoped_in
#print axioms DW.Props.C15.C15_genloadv1_ctor_vars_local
#print axioms DW.Props.C15.C15_genloadv1_well_scoped_inputs
#print axioms DW.Props.C15.C15_genloadv1_premises_sound
#print axioms DW.Props.C15.C15_genloadv1_field_vars_fresh
#print axioms DW.Props.C15.C15_genloadv1_text_is_literal
#print axioms DW.Props.C15.C15_genload_text_is_literal
