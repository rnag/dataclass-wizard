import DW.Props.C05
#print axioms DW.Props.C05.C05_no_input_writes
#print axioms DW.Props.C05.C05_generated_no_input_writes
#print axioms DW.Props.C05.C05_sound_scalar
#print axioms DW.Props.C05.C05_sound
#print axioms DW.Props.C05.C05_fromdict_sound
#print axioms DW.Props.C05.C05_v1_sound
#print axioms DW.Props.C05.C05_v1_fromdict_sound
#print axioms DW.Props.C05.C05_v1_sound_scalar
#print axioms DW.Props.C05.C05_v1_literal_member_by_value_and_type
#print axioms DW.Props.C05.C05_v1_literal_rejects
#print axioms DW.Props.C05.C05_v1_literal_mixed_witness
#print axioms DW.Props.C05.C05_v1_sound_example
#print axioms DW.Props.C05.C05_sound_example
#print axioms DW.Props.C05.C05_sound_example_union
#print axioms DW.Props.C05.C05_union_rejects_none
#print axioms DW.Props.C05.C05_union_accepts_declared_none
#print axioms DW.Props.C05.C05_none_annotation_witness
#print axioms DW.Props.C05.C05_short_tuple_witness
