import DW.Props.C08
#print axioms DW.Props.C08.C08_path_tables
#print axioms DW.Props.C08.C08_path_parse_print
#print axioms DW.Props.C08.C08_bool_after_any_components
#print axioms DW.Props.C08.C08_int_after_any_components
#print axioms DW.Props.C08.C08_quoted_true_is_string
#print axioms DW.Props.C08.C08_v1_first_listed_alias_wins
#print axioms DW.Props.C08.C08_v1_no_listed_alias_present
#print axioms DW.Props.C08.C08_lookup_independent_of_key_order
#print axioms DW.Props.C08.C08_v1_load_independent_of_key_order
#print axioms DW.Props.C08.C08_default_multi_alias_order_dependent_witness
#print axioms DW.Props.C08.C08_dump_false_wins_over_all
#print axioms DW.Props.C08.C08_skip_wins
#print axioms DW.Props.C08.C08_dump_false_metadata_form_repaired
#print axioms DW.Props.C08.C08_load_paths_independent_of_first_op
#print axioms DW.Props.C08.C08_dump_first_listed_alias
#print axioms DW.Props.C08.C08_lisp_roundtrip
#print axioms DW.Props.C08.C08_snake_idempotent
#print axioms DW.Props.C08.C08_camel_roundtrip_witness
#print axioms DW.Props.C08.C08_pascal_roundtrip_witness
#print axioms DW.Props.C08.C08_camel_roundtrip_partial
#print axioms DW.Props.C08.C08_pascal_roundtrip_partial
#print axioms DW.Props.C08.C08_casing_roundtrips_property_class
