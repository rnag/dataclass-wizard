import DW.Props.C09
#print axioms DW.Props.C09.C09_missing_exact
#print axioms DW.Props.C09.C09_init_false_never_demanded
#print axioms DW.Props.C09.C09_defaulted_never_missing
#print axioms DW.Props.C09.C09_success_fields
#print axioms DW.Props.C09.C09_success_only_if_complete
#print axioms DW.Props.C09.C09_absent_iff
#print axioms DW.Props.C09.C09_key_deletion
#print axioms DW.Props.C09.C09_key_deletion_example
#print axioms DW.Props.C09.C09_v1_missing_exact
#print axioms DW.Props.C09.C09_v1_init_false_never_demanded
#print axioms DW.Props.C09.C09_v1_kwargs_constructor_fields_only
#print axioms DW.Props.C09.C09_v1_success_fields
#print axioms DW.Props.C09.C09_v1_nested_missing_unchanged
