import DW.Props.C11
#print axioms DW.Props.C11.C11_operator_table
#print axioms DW.Props.C11.C11_argument_wins
#print axioms DW.Props.C11.C11_selection
#print axioms DW.Props.C11.C11_eq_ne_complement
#print axioms DW.Props.C11.C11_truthy_falsy_complement
#print axioms DW.Props.C11.C11_nan_selects_nothing
#print axioms DW.Props.C11.C11_dump_keys_exact
#print axioms DW.Props.C11.C11_generated_code_selects
#print axioms DW.Props.C11.C11_generated_code_selects_env
#print axioms DW.Props.C11.C11_dump_model_realises_generated_code
#print axioms DW.Props.C11.C11_generated_code_total
#print axioms DW.Props.C11.C11_generated_code_never_stuck
