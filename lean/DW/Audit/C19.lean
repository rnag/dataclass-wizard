import DW.Props.C19
#print axioms DW.Props.C19.C19_covers_source
#print axioms DW.Props.C19.C19_every_key_has_field
#print axioms DW.Props.C19.C19_every_path
#print axioms DW.Props.C19.C19_root_fields
#print axioms DW.Props.C19.C19_optional_merge
#print axioms DW.Props.C19.C19_every_key_has_field_partial
#print axioms DW.Props.C19.C19_deterministic
#print axioms DW.Props.C19.C19_independent_of_earlier_runs
#print axioms DW.Props.C19.C19_merge_fields_commute
#print axioms DW.Props.C19.C19_well_scoped
#print axioms DW.Props.C19.C19_names_resolve
#print axioms DW.Props.C19.C19_missing_key_witness
#print axioms DW.Props.C19.C19_every_key_has_field_witness
#print axioms DW.Props.C19.C19_null_element_repaired
#print axioms DW.Props.C19.C19_duplicate_class_witness
#print axioms DW.Props.C19.C19_key_not_identifier_witness
#print axioms DW.Props.C19.C19_error_path
#print axioms DW.Props.C19.C19_error_path_witness
#print axioms DW.Props.C19.C19_error_path_partial
