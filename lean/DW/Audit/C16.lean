import DW.Props.C16
#print axioms DW.Props.C16.C16_field_order
#print axioms DW.Props.C16.C16_ctor_params
#print axioms DW.Props.C16.C16_default_chosen
#print axioms DW.Props.C16.C16_public_annotation_beats_empty_helper
#print axioms DW.Props.C16.C16_same_name_uses_annotation
#print axioms DW.Props.C16.C16_mutable_zero_is_factory
#print axioms DW.Props.C16.C16_wrapped_default_routed
#print axioms DW.Props.C16.C16_default_routed
#print axioms DW.Props.C16.C16_value_routed
#print axioms DW.Props.C16.C16_assignment_routed
#print axioms DW.Props.C16.C16_factory_fresh
#print axioms DW.Props.C16.C16_untouched
#print axioms DW.Props.C16.C16_readonly_skipped
#print axioms DW.Props.C16.C16_unpaired_skipped
#print axioms DW.Props.C16.C16_untouched_class
#print axioms DW.Props.C16.C16_plain_default_wins_clean
#print axioms DW.Props.C16.C16_plain_default_partial
#print axioms DW.Props.C16.C16_plain_default_witness
#print axioms DW.Props.C16.C16_ide_style_example
#print axioms DW.Props.C16.C16_defaultdict_fresh_example
#print axioms DW.Props.C16.C16_union_default_is_first_member
#print axioms DW.Props.C16.C16_optional_default_none
#print axioms DW.Props.C16.C16_literal_default_is_first_value
#print axioms DW.Props.C16.C16_member_order_matters_example
#print axioms DW.Props.C16.C16_implied_default_own_annotation
#print axioms DW.Props.C16.C16_public_name_keeps_suffix
#print axioms DW.Props.C16.C16_trailing_underscore_example
