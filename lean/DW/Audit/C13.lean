import DW.Props.C13
#print axioms DW.Props.C13.C13_dispatch
#print axioms DW.Props.C13.C13_bad_tag
#print axioms DW.Props.C13.C13_missing_tag
#print axioms DW.Props.C13.C13_tag_key_not_unknown
#print axioms DW.Props.C13.C13_dump_tag
#print axioms DW.Props.C13.C13_default_tag_key
#print axioms DW.Props.C13.C13_roundtrip_tagged
#print axioms DW.Props.C13.C13_v1_dispatch
#print axioms DW.Props.C13.C13_v1_bad_tag
#print axioms DW.Props.C13.C13_v1_missing_tag
#print axioms DW.Props.C13.C13_v1_tag_key_known
#print axioms DW.Props.C13.C13_v1_noninit_mirror_ignored
#print axioms DW.Props.C13.C13_v1_tag_only_class_witness
#print axioms DW.Props.C13.C13_v1_roundtrip_tagged
#print axioms DW.Props.C13.C13_v1_roundtrip_tagged_example
#print axioms DW.Props.C13.C13_generated_code_writes_tag
