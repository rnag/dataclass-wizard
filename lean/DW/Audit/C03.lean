import DW.Props.C03
#print axioms DW.Props.C03.C03_scan_specific
#print axioms DW.Props.C03.C03_hooks_pure
#print axioms DW.Props.C03.C03_hooks_present
#print axioms DW.Props.C03.C03_scalar_json_safe
#print axioms DW.Props.C03.C03_json_safe
#print axioms DW.Props.C03.C03_json_safe_example
#print axioms DW.Props.C03.C03_generated_code_json_safe
