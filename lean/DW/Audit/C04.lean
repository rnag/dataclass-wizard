import DW.Props.C04
#print axioms DW.Props.C04.C04_truthy_table
#print axioms DW.Props.C04.C04_bool_of_str
#print axioms DW.Props.C04.C04_bool_of_int
#print axioms DW.Props.C04.C04_bool_of_float
#print axioms DW.Props.C04.C04_bool_of_bool
#print axioms DW.Props.C04.C04_int_rejects_bool
#print axioms DW.Props.C04.C04_int_empty
#print axioms DW.Props.C04.C04_int_identity
#print axioms DW.Props.C04.C04_int_of_float
#print axioms DW.Props.C04.C04_round_half_even_spec
#print axioms DW.Props.C04.C04_str
#print axioms DW.Props.C04.C04_datetime_of_str
#print axioms DW.Props.C04.C04_datetime_of_number
#print axioms DW.Props.C04.C04_datetime_rejects_bool
#print axioms DW.Props.C04.C04_enum_by_value
#print axioms DW.Props.C04.C04_nesting_list
#print axioms DW.Props.C04.C04_nesting_optional
#print axioms DW.Props.C04.C04_v1_str
#print axioms DW.Props.C04.C04_v1_bool_of_str
#print axioms DW.Props.C04.C04_v1_bool_of_int
#print axioms DW.Props.C04.C04_v1_int_of_float
#print axioms DW.Props.C04.C04_v1_int_of_float_str
#print axioms DW.Props.C04.C04_v1_int_rejects
#print axioms DW.Props.C04.C04_v1_list_elementwise
#print axioms DW.Props.C04.C04_v1_vtuple_elementwise
#print axioms DW.Props.C04.C04_v1_dict_elementwise
#print axioms DW.Props.C04.C04_v1_list_pointwise
#print axioms DW.Props.C04.C04_v1_optional
#print axioms DW.Props.C04.C04_v1_nesting
#print axioms DW.Props.C04.C04_v1_str_none_nested
#print axioms DW.Props.C04.C04_v1_optional_list_str_none
#print axioms DW.Props.C04.C04_v1_tuple_elementwise
#print axioms DW.Props.C04.C04_v1_tuple_pair
#print axioms DW.Props.C04.C04_v1_typeddict_member
#print axioms DW.Props.C04.C04_v1_namedtuple_member
#print axioms DW.Props.C04.C04_v1_namedtuple_member_error
#print axioms DW.Props.C04.C04_env_bool_of_str
#print axioms DW.Props.C04.C04_env_datetime_numeric
#print axioms DW.Props.C04.C04_env_datetime_numeric_ignores_iso
#print axioms DW.Props.C04.C04_env_datetime_iso
#print axioms DW.Props.C04.C04_env_date_numeric
#print axioms DW.Props.C04.C04_env_date_numeric_ignores_iso
#print axioms DW.Props.C04.C04_env_date_iso
#print axioms DW.Props.C04.C04_env_numeric_digits
#print axioms DW.Props.C04.C04_env_numeric_point
#print axioms DW.Props.C04.C04_env_numeric_rejects
#print axioms DW.Props.C04.C04_env_compact_date_is_epoch
#print axioms DW.Props.C04.C04_env_list_shorthand
#print axioms DW.Props.C04.C04_env_list_json
#print axioms DW.Props.C04.C04_env_list_elementwise
#print axioms DW.Props.C04.C04_env_dict_elementwise
#print axioms DW.Props.C04.C04_env_split_join
#print axioms DW.Props.C04.C04_env_join_split
#print axioms DW.Props.C04.C04_env_list_of_items
#print axioms DW.Props.C04.C04_env_dict_pair
#print axioms DW.Props.C04.C04_env_optional
#print axioms DW.Props.C04.C04_env_nesting
#print axioms DW.Props.C04.C04_env_fixed_tuple_witness
#print axioms DW.Props.C04.C04_env_fixed_tuple_partial
