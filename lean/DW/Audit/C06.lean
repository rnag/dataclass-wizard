import DW.Props.C06
#print axioms DW.Props.C06.C06_repeat_same
#print axioms DW.Props.C06.C06_first_use_is_spec
#print axioms DW.Props.C06.C06_transparent_partial
#print axioms DW.Props.C06.C06_load_history_independent
#print axioms DW.Props.C06.C06_load_cache_invariant
#print axioms DW.Props.C06.C06_load_history_independent_across_policies
#print axioms DW.Props.C06.C06_across_policies_witness
#print axioms DW.Props.C06.C06_negative_cache_witness
