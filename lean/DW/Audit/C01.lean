import DW.Props.C01
#print axioms DW.Props.C01.C01_z_rewrite_inverse
#print axioms DW.Props.C01.C01_datetime_roundtrip
#print axioms DW.Props.C01.C01_time_roundtrip
#print axioms DW.Props.C01.C01_date_roundtrip
#print axioms DW.Props.C01.C01_decimal_roundtrip
#print axioms DW.Props.C01.C01_uuid_roundtrip
#print axioms DW.Props.C01.C01_path_roundtrip
#print axioms DW.Props.C01.C01_int_roundtrip
#print axioms DW.Props.C01.C01_bool_roundtrip
#print axioms DW.Props.C01.C01_str_roundtrip
#print axioms DW.Props.C01.C01_float_roundtrip
#print axioms DW.Props.C01.C01_neg_timedelta_text
#print axioms DW.Props.C01.C01_roundtrip_struct
#print axioms DW.Props.C01.C01_every_dump_transform
#print axioms DW.Props.C01.C01_none_transform_any_identifier
#print axioms DW.Props.C01.C01_nameOK_examples
#print axioms DW.Props.C01.C01_roundtrip_root
#print axioms DW.Props.C01.C01_roundtrip_example
#print axioms DW.Props.C01.C01_roundtrip_example_containers
#print axioms DW.Props.C01.C01_roundtrip_example_typeddict
#print axioms DW.Props.C01.C01_roundtrip_example_tagged_union
