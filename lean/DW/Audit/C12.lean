import DW.Props.C12
#print axioms DW.Props.C12.C12_attribute_sets
#print axioms DW.Props.C12.C12_merge_spec
#print axioms DW.Props.C12.C12_special_never_inherited
#print axioms DW.Props.C12.C12_special_never_inherited_no_meta
#print axioms DW.Props.C12.C12_effective
#print axioms DW.Props.C12.C12_recursive_false
#print axioms DW.Props.C12.C12_recursive_default
#print axioms DW.Props.C12.C12_config_travels_list
#print axioms DW.Props.C12.C12_config_travels_pairs
#print axioms DW.Props.C12.C12_nested_instance
#print axioms DW.Props.C12.C12_nested_load
#print axioms DW.Props.C12.C12_v1_root
#print axioms DW.Props.C12.C12_v1_nested_load
#print axioms DW.Props.C12.C12_v1_config_travels
#print axioms DW.Props.C12.C12_v1_two_levels_down
#print axioms DW.Props.C12.C12_v1_effective_settings
#print axioms DW.Props.C12.C12_v1_effective_settings_nonrecursive
#print axioms DW.Props.C12.C12_v1_mid_policy_stops_at_mid
#print axioms DW.Props.C12.C12_v1_own_tag_key_wins
