import DW.Props.C18
#print axioms DW.Props.C18.C18_priority_table
#print axioms DW.Props.C18.C18_os_environ_untouched
#print axioms DW.Props.C18.C18_os_environ_history
#print axioms DW.Props.C18.C18_resolve
#print axioms DW.Props.C18.C18_resolve_partial
#print axioms DW.Props.C18.C18_stale_cache_witness
#print axioms DW.Props.C18.C18_multi_explicit_prefix_witness
#print axioms DW.Props.C18.C18_explicit_no_fallback_witness
#print axioms DW.Props.C18.C18_overlay_order
#print axioms DW.Props.C18.C18_later_file_wins
#print axioms DW.Props.C18.C18_missing_all_at_once
#print axioms DW.Props.C18.C18_missing_all_at_once_partial
