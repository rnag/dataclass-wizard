import DW.Props.C20
#print axioms DW.Props.C20.C20_first_use_linearizable
#print axioms DW.Props.C20.C20_tables_correct
#print axioms DW.Props.C20.C20_sequential_witness
#print axioms DW.Props.C20.C20_flag_first_witness
#print axioms DW.Props.C20.C20_placeholder_witness
#print axioms DW.Props.C20.C20_scan_schedule_independent
#print axioms DW.Props.C20.C20_live_scan_witness
#print axioms DW.Props.C20.C20_code_discipline
