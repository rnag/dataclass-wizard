import DW.Props.C14
#print axioms DW.Props.C14.C14_error_lattice
#print axioms DW.Props.C14.C14_v1_error_origin
#print axioms DW.Props.C14.C14_lib_only
#print axioms DW.Props.C14.C14_attribution_innermost
#print axioms DW.Props.C14.C14_v1_finish_lib
#print axioms DW.Props.C14.C14_v1_fromdict_lib
#print axioms DW.Props.C14.C14_v1_nested_lib
#print axioms DW.Props.C14.C14_v1_innermost_kept
#print axioms DW.Props.C14.C14_v1_inner_errors_pass
#print axioms DW.Props.C14.C14_v1_reattribution
#print axioms DW.Props.C14.C14_v1_error_origin_example
