import DW.Props.C07
#print axioms DW.Props.C07.C07_frame
#print axioms DW.Props.C07.C07_disjoint
#print axioms DW.Props.C07.C07_shared_nested_witness
#print axioms DW.Props.C07.C07_load_isolation
