import DW.Props.C02
#print axioms DW.Props.C02.C02_bytes_roundtrip
#print axioms DW.Props.C02.C02_datetime_roundtrip
#print axioms DW.Props.C02.C02_time_roundtrip
#print axioms DW.Props.C02.C02_date_roundtrip
#print axioms DW.Props.C02.C02_decimal_roundtrip
#print axioms DW.Props.C02.C02_uuid_roundtrip
#print axioms DW.Props.C02.C02_path_roundtrip
#print axioms DW.Props.C02.C02_plain_scalars
#print axioms DW.Props.C02.C02_keys_consistent
#print axioms DW.Props.C02.C02_auto_own_name_first
#print axioms DW.Props.C02.C02_union_container_first_witness
#print axioms DW.Props.C02.C02_roundtrip_struct
#print axioms DW.Props.C02.C02_roundtrip_root
#print axioms DW.Props.C02.C02_key_cases
#print axioms DW.Props.C02.C02_key_case_metas
#print axioms DW.Props.C02.C02_roundtrip_example
#print axioms DW.Props.C02.C02_roundtrip_example_containers
#print axioms DW.Props.C02.C02_roundtrip_example_typeddict
