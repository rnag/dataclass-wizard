import DW.Props.C17
#print axioms DW.Props.C17.C17_pattern_value
#print axioms DW.Props.C17.C17_iso_precedence
#print axioms DW.Props.C17.C17_dash_time_pattern_first
#print axioms DW.Props.C17.C17_iso
#print axioms DW.Props.C17.C17_neither
#print axioms DW.Props.C17.C17_neither_partial
#print axioms DW.Props.C17.C17_neither_witness
#print axioms DW.Props.C17.C17_class
#print axioms DW.Props.C17.C17_dump_reload
#print axioms DW.Props.C17.C17_first_pattern_wins
#print axioms DW.Props.C17.C17_v1_pattern_value
#print axioms DW.Props.C17.C17_v1_iso_precedence
#print axioms DW.Props.C17.C17_v1_iso
#print axioms DW.Props.C17.C17_v1_neither
#print axioms DW.Props.C17.C17_v1_class
#print axioms DW.Props.C17.C17_v1_tz_attached
#print axioms DW.Props.C17.C17_v1_dump_reload
#print axioms DW.Props.C17.C17_annotated_leaf
#print axioms DW.Props.C17.C17_elementwise
#print axioms DW.Props.C17.C17_elementwise_tuple
#print axioms DW.Props.C17.C17_elementwise_dict
#print axioms DW.Props.C17.C17_elementwise_optional
#print axioms DW.Props.C17.C17_v1_elementwise
#print axioms DW.Props.C17.C17_v1_elementwise_tuple
#print axioms DW.Props.C17.C17_v1_elementwise_dict
#print axioms DW.Props.C17.C17_v1_position_own
#print axioms DW.Props.C17.C17_v1_pattern_scope
#print axioms DW.Props.C17.C17_v1_position_partial
#print axioms DW.Props.C17.C17_pattern_value_applies
#print axioms DW.Props.C17.C17_v1_shared_pattern_witness
#print axioms DW.Props.C17.C17_v1_name_collision_witness
#print axioms DW.Props.C17.C17_v1_zone_collision_witness
#print axioms DW.Props.C17.C17_v1_sticky_witness
