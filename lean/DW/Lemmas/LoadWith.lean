/- The loops of the two load engines that differ only in the loader they call, stated over an arbitrary loader
`L : Ty → JVal → LRes`: the per-field loader of a class (`fieldWith`) and `load_to_typed_dict` (`tdWith`), each with the
equations saying that the engine's own function is this one at the engine's loader. -/
import DW.Model.LoadV1

namespace DW.Props.C05
open DW

/-- the declared type of field `n` (first entry, as the generated loader resolves it) -/
def tyOf (ftys : List (S × Ty)) (n : S) : Option Ty := (ftys.find? (fun p => p.1 == n)).map (·.2)

/-- the per-field loader of either engine: the loader of the field's declared type -/
def fieldWith (L : Ty → JVal → LRes) (ftys : List (S × Ty)) (f : S) (v : JVal) : LRes :=
  match tyOf ftys f with
  | some t => L t v
  | none => .error (.unsupported "field without type".toList)

theorem tyOf_cons (n : S) (t : Ty) (r : List (S × Ty)) (f : S) :
    tyOf ((n, t) :: r) f = if n == f then some t else tyOf r f := by
  unfold tyOf; rw [List.find?_cons]; cases n == f <;> rfl

theorem tyOf_mem {ftys : List (S × Ty)} {f : S} {t : Ty} (h : tyOf ftys f = some t) : ∃ p ∈ ftys, p.2 = t := by
  unfold tyOf at h
  obtain ⟨p, hp, rfl⟩ := Option.map_eq_some_iff.1 h
  exact ⟨p, List.mem_of_find?_eq_some hp, rfl⟩

theorem loadField_eq (std : Std) (cfg : Option MetaCfg) (f : S) (v : JVal) (ftys : List (S × Ty)) :
    loadField std cfg f v ftys = fieldWith (loadD std cfg) ftys f v := by
  induction ftys with
  | nil => rfl
  | cons p r ih =>
    obtain ⟨n, t⟩ := p
    unfold loadField
    rw [ih, fieldWith, fieldWith, tyOf_cons]
    cases n == f <;> rfl

/-- `load_to_typed_dict` of either engine: one pass over the declared keys in the order given; a key found in the document is
loaded, an absent required key is a ParseError, an absent optional key is skipped -/
def tdWith (L : Ty → JVal → LRes) : List (S × Ty × Bool) → List (S × JVal) → Except LErr (List (PyVal × PyVal))
  | [], _ => pure []
  | (k, t, req) :: r, kvs =>
      match kvs.find? (fun kv => kv.1 == k) with
      | some (_, v) => do
          let y ← L t v
          let ys ← tdWith L r kvs
          pure ((.str k, y) :: ys)
      | none => if req then parseE else tdWith L r kvs

theorem loadTd_eq (std : Std) (cfg : Option MetaCfg) (kvs : List (S × JVal)) (fields : List (S × Ty × Bool)) :
    loadTd std cfg fields kvs = tdWith (loadD std cfg) fields kvs := by
  induction fields with
  | nil => rfl
  | cons p r ih =>
    unfold loadTd
    rw [tdWith, ih]
    rfl

theorem v1Field_eq (std : Std) (cfg : Option MetaCfg) (f : S) (v : JVal) (ftys : List (S × Ty)) :
    v1Field std cfg f v ftys = fieldWith (loadV1 std cfg) ftys f v := by
  induction ftys with
  | nil => rfl
  | cons p r ih =>
    obtain ⟨n, t⟩ := p
    unfold v1Field
    rw [ih, fieldWith, fieldWith, tyOf_cons]
    cases n == f <;> rfl

theorem v1Td_eq (std : Std) (cfg : Option MetaCfg) (kvs : List (S × JVal)) (fields : List (S × Ty × Bool)) :
    v1Td std cfg fields kvs = tdWith (loadV1 std cfg) fields kvs := by
  induction fields with
  | nil => rfl
  | cons p r ih =>
    unfold v1Td
    rw [tdWith, ih]
    -- `v1Td` raises `perr`, `tdWith` raises `parseE`: both unfold to `.error (.parse none none)`
    rfl

end DW.Props.C05
