/-
The interpreter of the generated dump function agrees with a reference run *including the calls that raise*: a comparison that
raises makes the call raise (in the order the generated code evaluates them: all skip-defaults tests first, then field by
field), and the body generated for a class never reaches a statement form the interpreter does not know.
-/
import DW.Model.GenDumpSem
import DW.Lemmas.GenDump      -- the shapes of the generated names (`skipName_ne`, `ne_exclude`, …) and `GCond.final_cmp`
import DW.Lemmas.DumpFields   -- `isDefaultVal`, used by `fieldEmitE`, is defined there

namespace DW.GenDump
open DW DW.Names

theorem get_set_same (σ : St) (n : S) (b : Bool) : (σ.set n b).get n = some b := by
  simp [St.get, St.set]

theorem get_set_ne (σ : St) (n m : S) (b : Bool) (h : m ≠ n) : (σ.set n b).get m = σ.get m := by
  simp [St.get, St.set, List.lookup_cons, beq_false_of_ne h]

theorem get_emit (σ : St) (e : Emit) (m : S) : (σ.emit e).get m = σ.get m := rfl

/-- the locals `_skip_0`, `_skip_1`, … hold the Booleans `bs`.  The three phases of the generated body are stated over a split
`done ++ rest` of this list: the fields before the current one, and those from it on (its index is `done.length`), so that no
statement has to say what happens to the other locals. -/
def SkipVars (σ : St) (bs : List Bool) : Prop := ∀ j b, bs[j]? = some b → σ.get (skipName j) = some b

theorem SkipVars.nil (σ : St) : SkipVars σ [] := fun _ _ h => by simp at h

theorem SkipVars.get {σ : St} {done rest : List Bool} {a : Bool} (h : SkipVars σ (done ++ a :: rest)) :
    σ.get (skipName done.length) = some a :=
  h _ _ (by simp)

theorem SkipVars.withOut {σ : St} {bs : List Bool} (h : SkipVars σ bs) (out : List Emit) : SkipVars { σ with out := out } bs := h

theorem SkipVars.snoc {σ : St} {done : List Bool} (h : SkipVars σ done) (b : Bool) :
    SkipVars (σ.set (skipName done.length) b) (done ++ [b]) := by
  intro j c hj
  by_cases hjd : j = done.length
  · subst hjd
    rw [get_set_same]
    simpa using hj
  · have hlt : j < done.length := by
      have := (List.getElem?_eq_some_iff.mp hj).1
      simp at this
      omega
    rw [get_set_ne _ _ _ _ (skipName_ne _ _ hjd)]
    exact h j c (by rwa [List.getElem?_append_left hlt] at hj)

theorem SkipVars.set {σ : St} {done rest : List Bool} {a : Bool} (h : SkipVars σ (done ++ a :: rest)) (b : Bool) :
    SkipVars (σ.set (skipName done.length) b) (done ++ b :: rest) := by
  intro j c hj
  by_cases hjd : j = done.length
  · subst hjd
    rw [get_set_same]
    simpa using hj
  · rw [get_set_ne _ _ _ _ (skipName_ne _ _ hjd)]
    have hset : done ++ b :: rest = (done ++ a :: rest).set done.length b := by simp
    rw [hset, List.getElem?_set_ne (Ne.symm hjd)] at hj
    exact h j c hj

theorem setAll_skipTargets (b : Bool) (fs : List GField) (done : List Bool) (σ : St) (h : SkipVars σ done) :
    ∃ σ', setAll σ b (skipTargets done.length fs) = some σ' ∧ σ'.out = σ.out ∧ SkipVars σ' (done ++ fs.map fun _ => b) := by
  induction fs generalizing done σ with
  | nil => exact ⟨σ, rfl, rfl, by simpa using h⟩
  | cons _ r ih =>
    obtain ⟨σ', h1, h2, h3⟩ := ih (done ++ [b]) _ (h.snoc b)
    rw [List.length_append, List.length_singleton] at h1
    exact ⟨σ', by simpa [skipTargets, setAll] using h1, by simpa [St.set] using h2, by simpa using h3⟩

theorem toCOp_toCondOp (o : CondOp) : (CondOp.toCOp o).toCondOp = o := by cases o <;> rfl

theorem operand_oAttr (ρ : Env) (f : S) (v : PyVal) (hf : ρ.field f = some v) : operand ρ (oAttr f) = some (.val v) := by
  simp [operand, oAttr, nm, hf]

theorem operand_inline (ρ : Env) (c : Cond) (x : Expr) (h : (condOf c).inlineExpr = some x) :
    operand ρ x = some (.lit c.val) := by
  obtain ⟨op, val⟩ := c
  cases val with
  | none => cases h; rfl
  | bool b => cases b <;> cases h <;> rfl
  | int _ | str _ =>
    simp only [condOf, cvalOf, GCond.inlineExpr] at h
    by_cases hid : (CondOp.toCOp op).identity = true
    · simp [hid] at h
    · simp only [hid, Bool.false_eq_true, if_false, Option.some.injEq] at h; subst h; rfl
  | float f => cases h

/-- an error of a comparison of the dump model, as the call's exception -/
def liftB (r : Except DErr Bool) : Except SErr Bool :=
  match r with
  | .ok b => .ok b
  | .error e => .error (.raised e)

theorem evalB_oAttr (ρ : Env) (vars : S → Option Bool) (f : S) (v : PyVal) (hf : ρ.field f = some v) :
    evalB ρ vars (oAttr f) = .ok v.truthy := by
  simp [evalB, oAttr, nm, operand, hf]

theorem evalB_final (p : Char → Bool) (ρ : Env) (vars : S → Option Bool) (c : Cond) (f : S) (v : PyVal) (op2 : S)
    (hf : ρ.field f = some v) (h2 : (condOf c).binds p = true → ρ.closure op2 = some (.lit c.val))
    (hne : op2 ≠ "exclude".toList) :
    evalB ρ vars ((condOf c).final p (oAttr f) op2) = liftB (evalCondE c v) := by
  cases ht : (condOf c).op.tOrF with
  | true =>
    -- the two truthiness tests: `o.f` and `not o.f`
    obtain ⟨op, val⟩ := c
    cases op
    case truthy => simp [condOf, CondOp.toCOp, GCond.final, evalB_oAttr ρ vars f v hf, liftB, evalCondE, evalCond]
    case falsy =>
      simp [condOf, CondOp.toCOp, GCond.final, evalB, evalB_oAttr ρ vars f v hf, liftB, evalCondE, evalCond, bind, Except.bind,
        pure, Except.pure]
    all_goals cases ht
  | false =>
    -- a comparison of `o.f` with the value of the condition, written into the source or read from the closure
    have hx : operand ρ ((condOf c).inlineExpr.getD (.name op2)) = some (.lit c.val) := by
      cases hi : (condOf c).inlineExpr with
      | some e => exact operand_inline ρ c e hi
      | none =>
        simp only [Option.getD_none, operand]
        rw [if_neg hne, h2 (by simp [GCond.binds, ht, hi])]
    rw [GCond.final_cmp p _ _ _ ht]
    simp only [evalB, cmpOp, operand_oAttr ρ f v hf, hx, liftB, evalCondE]
    rw [show (condOf c).op.toCondOp = c.op from toCOp_toCondOp c.op]
    cases evalCond c v <;> rfl

theorem operand_exclude (ρ : Env) : operand ρ (nm "exclude") = some (.excl ρ.exclude) := by
  unfold nm operand
  exact if_pos rfl

theorem evalB_exclude_is_none (ρ : Env) (vars : S → Option Bool) :
    evalB ρ vars (.bin (nm "exclude") (.cmp .is_) (.lit .none)) = .ok ρ.exclude.isNone := by
  rw [evalB, cmpOp, operand_exclude]
  rfl

theorem exec_chain_false (ρ : Env) (σ : St) (ts : List Target) (σ' : St) (h : setAll σ false ts = some σ') :
    execSimple ρ σ (.assign true ts (.lit .false_)) = .ok σ' := by
  cases ts with
  | nil => cases h; rfl
  | cons t r =>
    cases t with
    | name n => simp [execSimple, evalB, h, bind, Except.bind]
    | item b idx => simp [setAll] at h

theorem evalB_in_exclude (ρ : Env) (vars : S → Option Bool) (name : S) (es : List S) (h : ρ.exclude = some es) :
    evalB ρ vars (.bin (.lit (.str name)) .in_ (nm "exclude")) = .ok (es.contains name) := by
  rw [evalB, operand_exclude, h]
  rfl

theorem exec_assign (ρ : Env) (σ : St) (n : S) (l r : Expr) (o : Op) (tight : Bool) :
    execSimple ρ σ (.assign tight [.name n] (.bin l o r)) = (do
      let b ← evalB ρ σ.get (.bin l o r)
      pure (σ.set n b)) := by
  simp only [execSimple, setAll]
  rfl

theorem exec_excludeAssigns (p : Char → Bool) (ρ : Env) (es : List S) (hes : ρ.exclude = some es)
    (fs : List GField) (done : List Bool) (σ : St) (h : SkipVars σ done) :
    ∃ σ', execSimples ρ σ (excludeAssigns p done.length fs) = .ok σ' ∧ σ'.out = σ.out ∧
      SkipVars σ' (done ++ fs.map fun f => es.contains f.name) := by
  induction fs generalizing done σ with
  | nil => exact ⟨σ, rfl, rfl, by simpa using h⟩
  | cons f r ih =>
    obtain ⟨σ', h1, h2, h3⟩ := ih (done ++ [es.contains f.name]) _ (h.snoc _)
    rw [List.length_append, List.length_singleton] at h1
    refine ⟨σ', ?_, by simpa [St.set] using h2, by simpa using h3⟩
    simp only [excludeAssigns, execSimples]
    rw [exec_assign, evalB_in_exclude ρ _ f.name es hes]
    exact h1

theorem exec_ifelse (p : Char → Bool) (ρ : Env) (fs : List GField) (σ : St) :
    ∃ σ', L2.exec ρ σ (L2.if_ (.bin (nm "exclude") (.cmp .is_) (.lit .none))
        [.line { parts := [.assign true (skipTargets 0 fs) (.lit .false_)] }]
        (some [.line { parts := excludeAssigns p 0 fs, sep := [';'] }])) = .ok σ' ∧ σ'.out = σ.out ∧
      SkipVars σ' (fs.map fun f => match ρ.exclude with | none => false | some es => es.contains f.name) := by
  simp only [L2.exec, evalB_exclude_is_none, bind, Except.bind]
  cases hex : ρ.exclude with
  | none =>
    obtain ⟨σ', h1, h2, h3⟩ := setAll_skipTargets false fs [] σ (.nil σ)
    rw [List.length_nil] at h1
    refine ⟨σ', ?_, h2, by simpa using h3⟩
    simp [execL1s, L1.exec, L0.exec, execSimples, exec_chain_false ρ σ _ σ' h1, bind, Except.bind]
  | some es =>
    obtain ⟨σ', h1, h2, h3⟩ := exec_excludeAssigns p ρ es hex fs [] σ (.nil σ)
    rw [List.length_nil] at h1
    refine ⟨σ', ?_, h2, by simpa using h3⟩
    simp [execL1s, L1.exec, L0.exec, h1, bind, Except.bind]

theorem asdictField_asdictOf (f : S) : asdictField (asdictOf (oAttr f)) = some f := by
  simp only [asdictField, asdictOf, oAttr, nm, and_self, if_true]

theorem exec_append (ρ : Env) (σ : St) (key f : S) :
    execSimple ρ σ (appendStmt (.lit (.str key)) (oAttr f)) = .ok (σ.emit (.entry key f)) := by
  simp only [appendStmt, execSimple, nm, asdictField_asdictOf, and_self, if_true]

theorem execL1s_single (ρ : Env) (σ : St) (x : L1) : execL1s ρ σ [x] = x.exec ρ σ := bind_pure (x.exec ρ σ)

theorem execL2s_single (ρ : Env) (σ : St) (x : L2) : execL2s ρ σ [x] = x.exec ρ σ := bind_pure (x.exec ρ σ)

theorem exec_if (ρ : Env) (σ : St) (c : Expr) (thn : List L1) :
    execL2s ρ σ [L2.if_ c thn none] = (do
      let b ← evalB ρ σ.get c
      if b then execL1s ρ σ thn else pure σ) :=
  execL2s_single ρ σ _

/-- an `if` around one emitting statement, its test the negation of "skip the field": where that raises, so does the statement -/
theorem emit_step (ρ : Env) (σ : St) (c : Expr) (x : L1) (em : Emit) (skip : Except SErr Bool)
    (hc : evalB ρ σ.get c = skip.map (!·)) (hx : L1.exec ρ σ x = .ok (σ.emit em)) :
    execL2s ρ σ [L2.if_ c [x] none] = skip.map fun b => { σ with out := σ.out ++ if b then [] else [em] } := by
  rw [exec_if, hc]
  cases skip with
  | error e => rfl
  | ok b => cases b <;> simp [execL1s_single, hx, St.emit, bind, Except.bind, pure, Except.pure, Except.map]

theorem execL2s_append (ρ : Env) (xs ys : List L2) (σ : St) :
    execL2s ρ σ (xs ++ ys) = (execL2s ρ σ xs >>= fun σ' => execL2s ρ σ' ys) := by
  induction xs generalizing σ with
  | nil => rfl
  | cons x r ih => simp only [List.cons_append, execL2s, ih, bind_assoc]

theorem execL2s_cons_ok {ρ : Env} {σ σ' : St} {x : L2} (h : x.exec ρ σ = .ok σ') (r : List L2) :
    execL2s ρ σ (x :: r) = execL2s ρ σ' r := by
  simp only [execL2s, h]; rfl

theorem execL1s_append (ρ : Env) (xs ys : List L1) (σ : St) :
    execL1s ρ σ (xs ++ ys) = (execL1s ρ σ xs >>= fun σ' => execL1s ρ σ' ys) := by
  induction xs generalizing σ with
  | nil => rfl
  | cons x r ih => simp only [List.cons_append, execL1s, ih, bind_assoc]

/-- `r` runs like the reference `ref`: it raises what `ref` raises, and where `ref` returns `b` it ends in a state that `R` relates
to `b`.  (The state itself is not a function of `b` worth writing down: the locals are assigned in the order the lines run.) -/
def Sim {β : Type} (r : Except SErr St) (ref : Except SErr β) (R : β → St → Prop) : Prop :=
  match ref with
  | .ok b => ∃ σ', r = .ok σ' ∧ R b σ'
  | .error e => r = .error e

theorem Sim.pure {β : Type} {σ : St} {b : β} {R : β → St → Prop} (h : R b σ) : Sim (.ok σ) (.ok b) R := ⟨σ, rfl, h⟩

theorem Sim.bind {β γ : Type} {r : Except SErr St} {ref : Except SErr β} {R : β → St → Prop} {f : St → Except SErr St}
    {g : β → Except SErr γ} {Q : γ → St → Prop} (h : Sim r ref R) (hf : ∀ b σ', R b σ' → Sim (f σ') (g b) Q) :
    Sim (r >>= f) (ref >>= g) Q := by
  cases ref with
  | error e => rw [show r = .error e from h]; exact rfl
  | ok b => obtain ⟨σ', rfl, hR⟩ := h; exact hf b σ' hR

theorem Sim.map {β γ : Type} {r : Except SErr St} {ref : Except SErr β} {R : β → St → Prop} {g : β → γ} {Q : γ → St → Prop}
    (h : Sim r ref R) (hg : ∀ b σ', R b σ' → Q (g b) σ') : Sim r (ref >>= fun b => Pure.pure (g b)) Q := by
  cases ref with
  | error e => exact h
  | ok b => obtain ⟨σ', rfl, hR⟩ := h; exact ⟨σ', rfl, hg b σ' hR⟩

theorem Sim.of_eq {β : Type} {r : Except SErr St} {ref : Except SErr β} {f : β → St}
    (h : r = ref.map f) : Sim r ref (fun b σ' => σ' = f b) := by
  subst h
  cases ref with
  | error e => exact rfl
  | ok b => exact ⟨_, rfl, rfl⟩

theorem Sim.run {r : Except SErr St} {ref : Except SErr (List Emit)} (h : Sim r ref (fun es σ' => σ'.out = es)) :
    (r >>= fun σ' => Pure.pure σ'.out) = ref := by
  cases ref with
  | error e => rw [show r = .error e from h]; rfl
  | ok es => obtain ⟨σ', rfl, rfl⟩ := h; rfl

theorem evalB_skip_defaults (ρ : Env) (vars : S → Option Bool) : evalB ρ vars (nm "skip_defaults") = .ok ρ.skipDefaults := by
  unfold nm evalB
  exact if_pos rfl

theorem evalB_skipVar (ρ : Env) (σ : St) (i : Nat) (a : Bool) (h : σ.get (skipName i) = some a) :
    evalB ρ σ.get (.name (skipName i)) = .ok a := by
  unfold evalB
  rw [if_neg (skip_defaults_ne_skipName i), h]

theorem operand_defaultName {p : Char → Bool} {ρ : Env} {eff : MetaCfg} {args : DumpArgs} {fks : List (FieldInfo × S)}
    {vals : S → PyVal} (W : World p eff args fks vals ρ) {i : Nat} {fi : FieldInfo} {k : S} {d : Dflt}
    (hi : fks[i]? = some (fi, k)) (hd : fi.dflt = some d) : operand ρ (.name (defaultName i)) = some (.dflt d) := by
  simp only [operand]
  rw [if_neg (ne_exclude (defaultName_cons i)), W.dflt i fi k d hi hd]

theorem drop_cons_get {α : Type} (l : List α) (i : Nat) (x : α) (r : List α) (h : l.drop i = x :: r) :
    l[i]? = some x ∧ l.drop (i + 1) = r :=
  ⟨by rw [← List.head?_drop, h, List.head?_cons], by rw [← List.tail_drop, h, List.tail_cons]⟩

theorem evalB_or_ok (ρ : Env) (vars : S → Option Bool) (l r : Expr) (a : Bool) (hl : evalB ρ vars l = .ok a) :
    evalB ρ vars (.bin l .or_ r) = if a then .ok true else evalB ρ vars r := by
  simp only [evalB, hl]; rfl

theorem evalB_and_ok (ρ : Env) (vars : S → Option Bool) (l r : Expr) (a : Bool) (hl : evalB ρ vars l = .ok a) :
    evalB ρ vars (.bin l .and_ r) = if a then evalB ρ vars r else .ok false := by
  simp only [evalB, hl]; rfl

theorem evalB_not_ok (ρ : Env) (vars : S → Option Bool) (e : Expr) (a : Bool) (he : evalB ρ vars e = .ok a) :
    evalB ρ vars (.not_ e) = .ok (!a) := by
  simp only [evalB, he]; rfl

theorem execL1s_cons_line (ρ : Env) (σ : St) (s : Simple) (sep : S) (r : List L1) :
    execL1s ρ σ (L1.line { parts := [s], sep := sep } :: r) = (do
      let σ1 ← execSimple ρ σ s
      execL1s ρ σ1 r) := by
  simp only [execL1s, L1.exec, L0.exec, execSimples]
  cases execSimple ρ σ s <;> rfl

theorem evalB_sd_rhs {p : Char → Bool} {ρ : Env} {eff : MetaCfg} {args : DumpArgs} {fks : List (FieldInfo × S)}
    {vals : S → PyVal} (W : World p eff args fks vals ρ) (vars : S → Option Bool) {i : Nat} {fi : FieldInfo} {k : S} {d : Dflt}
    (hi : fks[i]? = some (fi, k)) (hd : fi.dflt = some d) :
    evalB ρ vars (sdRhs p (ginOf eff fks) i (gfieldOf fi k)) = liftB (defaultTest eff fi (vals fi.name)) := by
  unfold defaultTest sdRhs
  simp only [gfieldOf, ginOf, hd]
  cases hs : eff.skipDefaultsIf with
  | some c =>
    exact evalB_final p ρ vars c fi.name (vals fi.name) skipDefaultsValue (W.field _)
      (fun hbd => W.skipDefaultsValue c hs hbd) (ne_exclude skipDefaultsValue_eq)
  | none =>
    simp only [Option.map, evalB, cmpOp, operand_oAttr ρ fi.name (vals fi.name) (W.field _), operand_defaultName W hi hd]
    rfl

/-- the bookkeeping value of a field after the `if skip_defaults:` block when the block runs (`2`: the second phase, `On`:
`skip_defaults` is on) -/
def sk2On (eff : MetaCfg) (args : DumpArgs) (fi : FieldInfo) (v : PyVal) : Except SErr Bool :=
  if excluded args fi then .ok true else liftB (defaultTest eff fi v)

/-- all of them, in field order: the first test that raises ends the call -/
def phase2On (eff : MetaCfg) (args : DumpArgs) (vals : S → PyVal) : List (FieldInfo × S) → Except SErr (List Bool)
  | [] => .ok []
  | q :: r => do
    let b ← sk2On eff args q.1 (vals q.1.name)
    let bs ← phase2On eff args vals r
    pure (b :: bs)

theorem exec_sdLine {p : Char → Bool} {ρ : Env} {eff : MetaCfg} {args : DumpArgs} {fks : List (FieldInfo × S)}
    {vals : S → PyVal} (W : World p eff args fks vals ρ) (σ : St) {done exs : List Bool} {fi : FieldInfo} {k : S}
    (hi : fks[done.length]? = some (fi, k)) (hvars : SkipVars σ (done ++ excluded args fi :: exs)) :
    Sim (execL1s ρ σ (if (gfieldOf fi k).hasDefault then
        [L1.line { parts := [.assign false [.name (skipName done.length)]
          (.bin (.name (skipName done.length)) .or_ (sdRhs p (ginOf eff fks) done.length (gfieldOf fi k)))] }] else []))
      (sk2On eff args fi (vals fi.name)) (fun b σ1 => σ1.out = σ.out ∧ SkipVars σ1 (done ++ b :: exs)) := by
  rw [show (gfieldOf fi k).hasDefault = fi.dflt.isSome from rfl]
  cases hd : fi.dflt with
  | none =>
    have hsk : sk2On eff args fi (vals fi.name) = .ok (excluded args fi) := by
      unfold sk2On defaultTest
      rw [hd]
      cases excluded args fi <;> rfl
    rw [hsk]
    exact .pure ⟨rfl, hvars⟩
  | some d =>
    have hev : evalB ρ σ.get (.bin (.name (skipName done.length)) .or_ (sdRhs p (ginOf eff fks) done.length (gfieldOf fi k))) =
        sk2On eff args fi (vals fi.name) := by
      rw [evalB_or_ok ρ σ.get _ _ _ (evalB_skipVar ρ σ _ _ hvars.get),
        evalB_sd_rhs W σ.get hi hd]
      rfl
    rw [Option.isSome_some, if_pos rfl, execL1s_cons_line, exec_assign, hev]
    cases sk2On eff args fi (vals fi.name) with
    | error e => exact rfl
    | ok b => exact ⟨σ.set _ b, rfl, rfl, hvars.set b⟩

theorem exec_sdLines {p : Char → Bool} {ρ : Env} {eff : MetaCfg} {args : DumpArgs} {fks : List (FieldInfo × S)}
    {vals : S → PyVal} (W : World p eff args fks vals ρ) (fs : List (FieldInfo × S)) (done : List Bool) (σ : St)
    (hdrop : fks.drop done.length = fs) (hvars : SkipVars σ (done ++ fs.map fun q => excluded args q.1)) :
    Sim (execL1s ρ σ (skipDefaultLines p (ginOf eff fks) done.length (fs.map (fun q => gfieldOf q.1 q.2))))
      (phase2On eff args vals fs) (fun bs σ' => σ'.out = σ.out ∧ bs.length = fs.length ∧ SkipVars σ' (done ++ bs)) := by
  induction fs generalizing done σ with
  | nil => exact .pure ⟨rfl, rfl, hvars⟩
  | cons q r ih =>
    obtain ⟨hget, hdrop'⟩ := drop_cons_get fks done.length q r hdrop
    rw [List.map_cons] at hvars
    rw [List.map_cons, skipDefaultLines, execL1s_append, phase2On]
    refine .bind (exec_sdLine W σ hget hvars) fun b σ1 ⟨ho, hv⟩ => ?_
    have ih := ih (done ++ [b]) σ1 (by simpa using hdrop') (by simpa using hv)
    rw [List.length_append, List.length_singleton] at ih
    exact ih.map fun bs σ' ⟨ho', hl, hv'⟩ => ⟨ho'.trans ho, by simp [hl], by simpa using hv'⟩

def phase2 (eff : MetaCfg) (args : DumpArgs) (vals : S → PyVal) (fks : List (FieldInfo × S)) : Except SErr (List Bool) :=
  if skipDefaultsOn eff args then phase2On eff args vals fks else .ok (fks.map (fun q => excluded args q.1))

/-- the block is left out when no field has a default: then it would have no lines -/
theorem exec_sdBlock_eq (p : Char → Bool) (ρ : Env) (g : GIn) (σ : St) :
    execL2s ρ σ (sdBlock p g) = if ρ.skipDefaults then execL1s ρ σ (skipDefaultLines p g 0 g.fields) else .ok σ := by
  unfold sdBlock
  split
  · next hnil => rw [hnil]; cases ρ.skipDefaults <;> rfl
  · rw [exec_if, evalB_skip_defaults]
    rfl

theorem exec_sdBlock {p : Char → Bool} {ρ : Env} {eff : MetaCfg} {args : DumpArgs} {fks : List (FieldInfo × S)}
    {vals : S → PyVal} (W : World p eff args fks vals ρ) (σ : St)
    (hvars : SkipVars σ (fks.map fun q => excluded args q.1)) :
    Sim (execL2s ρ σ (sdBlock p (ginOf eff fks))) (phase2 eff args vals fks)
      (fun bs σ' => σ'.out = σ.out ∧ bs.length = fks.length ∧ SkipVars σ' bs) := by
  rw [exec_sdBlock_eq, W.skipDefaults]
  unfold phase2
  cases skipDefaultsOn eff args
  · exact .pure ⟨rfl, List.length_map _, hvars⟩
  · exact exec_sdLines W fks [] σ rfl hvars

/-- what a field contributes, given its bookkeeping value; a comparison of its own that raises makes the call raise -/
def fieldEmitE (eff : MetaCfg) (sk2 : Bool) (fi : FieldInfo) (k : S) (v : PyVal) : Except SErr (List Emit) :=
  if fi.isCatchAll then .ok (if isDefaultVal fi v || sk2 then [] else [.catchAll fi.name])
  else if fi.dumpSkip then .ok []
  else if sk2 then .ok []
  else match liftB (ownCond eff fi v) with
    | .ok oc => .ok (if oc then [] else [.entry k fi.name])
    | .error e => .error e

/-- `not (_skip_i or e)`: `e` is evaluated only when `_skip_i` is false -/
theorem evalB_not_skip_or {ρ : Env} {σ : St} {i : Nat} {sk2 : Bool} (hsk : σ.get (skipName i) = some sk2) {e : Expr}
    {r : Except SErr Bool} (he : evalB ρ σ.get e = r) :
    evalB ρ σ.get (.not_ (.paren (.bin (.name (skipName i)) .or_ e))) = (if sk2 then .ok true else r).map (!·) := by
  rw [evalB, evalB, evalB_or_ok ρ σ.get _ _ sk2 (evalB_skipVar ρ σ i sk2 hsk), he]
  cases sk2
  · cases r <;> rfl
  · rfl

theorem evalB_fieldCond {p : Char → Bool} {ρ : Env} {eff : MetaCfg} {args : DumpArgs} {fks : List (FieldInfo × S)}
    {vals : S → PyVal} (W : World p eff args fks vals ρ) (σ : St) {i : Nat} {fi : FieldInfo} {k : S}
    (hi : fks[i]? = some (fi, k)) {sk2 : Bool} (hsk : σ.get (skipName i) = some sk2) :
    evalB ρ σ.get (fieldCond p (ginOf eff fks) i (gfieldOf fi k)) =
      (if sk2 then .ok true else liftB (ownCond eff fi (vals fi.name))).map (!·) := by
  unfold ownCond fieldCond
  simp only [gfieldOf, ginOf]
  cases hf : fi.skipIf with
  | some c =>
    exact evalB_not_skip_or hsk (evalB_final p ρ σ.get c fi.name (vals fi.name) _ (W.field _)
      (fun hb => W.skipIf i fi k c hi hf hb) (ne_exclude (skipIfName_cons i)))
  | none =>
    cases hm : eff.skipIf with
    | some c =>
      exact evalB_not_skip_or hsk (evalB_final p ρ σ.get c fi.name (vals fi.name) _ (W.field _)
        (fun hb => W.skipValue c hm hb) (ne_exclude skipValue_eq))
    | none =>
      simp only [Option.map]
      rw [evalB_not_ok ρ σ.get _ sk2 (evalB_skipVar ρ σ i sk2 hsk)]
      cases sk2 <;> rfl

theorem exec_fieldStmt {p : Char → Bool} {ρ : Env} {eff : MetaCfg} {args : DumpArgs} {fks : List (FieldInfo × S)}
    {vals : S → PyVal} (W : World p eff args fks vals ρ) (σ : St) {i : Nat} {fi : FieldInfo} {k : S}
    (hi : fks[i]? = some (fi, k)) {sk2 : Bool} (hsk : σ.get (skipName i) = some sk2) :
    execL2s ρ σ (fieldStmt p (ginOf eff fks) i (gfieldOf fi k)) =
      (fieldEmitE eff sk2 fi k (vals fi.name)).map fun es => { σ with out := σ.out ++ es } := by
  have hskv := evalB_skipVar ρ σ i sk2 hsk
  unfold fieldStmt fieldEmitE
  cases hca : fi.isCatchAll with
  | true =>
    -- the catch-all field: `if [o.f != _default_i and] not _skip_i: for k, v in o.f.items(): …`
    simp only [gfieldOf, hca, Bool.true_or, if_true]
    have hfor : L1.exec ρ σ (.for_ ["k".toList, "v".toList] (.call0 (.attr (oAttr fi.name) "items".toList))
        [{ parts := [appendStmt (nm "k") (nm "v")] }]) = .ok (σ.emit (.catchAll fi.name)) := by
      simp only [L1.exec, forField, oAttr, nm, and_self, if_true]
    cases hd : fi.dflt with
    | none =>
      simp only [isDefaultVal, hd, Option.isSome_none, Bool.false_eq_true, if_false, Bool.false_or]
      exact emit_step ρ σ _ _ _ (.ok sk2) (evalB_not_ok ρ σ.get _ sk2 hskv) hfor
    | some d =>
      simp only [isDefaultVal, hd, Option.isSome_some, if_true]
      have hcmp : evalB ρ σ.get (.bin (oAttr fi.name) (.cmp .ne) (.name (defaultName i))) = .ok (!pyEqDflt (vals fi.name) d) := by
        simp only [evalB, cmpOp, operand_oAttr ρ fi.name (vals fi.name) (W.field _), operand_defaultName W hi hd]
      have hc : evalB ρ σ.get (.bin (.bin (oAttr fi.name) (.cmp .ne) (.name (defaultName i))) .and_ (.not_ (.name (skipName i)))) =
          .ok (!(pyEqDflt (vals fi.name) d || sk2)) := by
        rw [evalB_and_ok ρ σ.get _ _ _ hcmp]
        cases pyEqDflt (vals fi.name) d
        · exact evalB_not_ok ρ σ.get _ sk2 hskv
        · rfl
      exact emit_step ρ σ _ _ _ (.ok _) hc hfor
  | false =>
    cases hds : fi.dumpSkip with
    | false =>
      -- an ordinary field: `if <fieldCond>: result.append((key, asdict(o.f, …)))`
      have hc := evalB_fieldCond W σ hi hsk
      simp only [gfieldOf, hca, hds, Bool.or_self, Bool.false_eq_true, if_false] at hc ⊢
      rw [emit_step ρ σ _ _ (.entry k fi.name) _ hc (by simp only [L1.exec, L0.exec, execSimples, exec_append]; rfl)]
      cases sk2
      · cases liftB (ownCond eff fi (vals fi.name)) <;> rfl
      · rfl
    | true => simp [gfieldOf, hca, hds, execL2s, Except.map]

/-- total in `bs` (`head?.getD false`, `tail`) rather than indexed by its length: `exec_fieldStmts` carries `bs.length = fs.length` -/
def phase3 (eff : MetaCfg) (vals : S → PyVal) : List (FieldInfo × S) → List Bool → Except SErr (List Emit)
  | [], _ => .ok []
  | (fi, k) :: r, bs => do
    let es ← fieldEmitE eff (bs.head?.getD false) fi k (vals fi.name)
    let rest ← phase3 eff vals r bs.tail
    pure (es ++ rest)

theorem exec_fieldStmts {p : Char → Bool} {ρ : Env} {eff : MetaCfg} {args : DumpArgs} {fks : List (FieldInfo × S)}
    {vals : S → PyVal} (W : World p eff args fks vals ρ) (fs : List (FieldInfo × S)) (bs done : List Bool) (σ : St)
    (hdrop : fks.drop done.length = fs) (hlen : bs.length = fs.length) (hvars : SkipVars σ (done ++ bs)) :
    Sim (execL2s ρ σ (fieldStmts p (ginOf eff fks) done.length (fs.map (fun q => gfieldOf q.1 q.2))))
      (phase3 eff vals fs bs) (fun es σ' => σ' = { σ with out := σ.out ++ es }) := by
  induction fs generalizing bs done σ with
  | nil => exact .pure (by rw [List.append_nil])
  | cons q r ih =>
    obtain ⟨hget, hdrop'⟩ := drop_cons_get fks done.length q r hdrop
    obtain ⟨b, bs', rfl⟩ := List.exists_cons_of_length_eq_add_one hlen
    rw [List.map_cons, fieldStmts, execL2s_append, phase3]
    refine .bind (.of_eq (exec_fieldStmt W σ hget hvars.get)) fun es σ1 h1 => ?_
    -- the entries go to `out`; the `_skip_<i>` are where they were
    have ih := ih bs' (done ++ [b]) σ1 (by simpa using hdrop') (Nat.succ.inj hlen) (by rw [h1]; simpa using hvars.withOut _)
    rw [List.length_append, List.length_singleton] at ih
    exact ih.map fun rest σ' h => by rw [h, h1, List.append_assoc]

/-- a class of the class model has no JSON-path keys (and `ginOf` sets neither `preDict` nor `extraPaths`): the `paths` lines and
`Emit.path` of the interpreter are reached by no theorem about `ginOf` -/
theorem ginOf_hasPaths (eff : MetaCfg) (fks : List (FieldInfo × S)) : (ginOf eff fks).hasPaths = false := by
  simp only [GIn.hasPaths, ginOf, Bool.false_or, List.any_map]
  rw [List.any_eq_false]
  intro q _
  simp only [Function.comp, gfieldOf]
  split <;> simp [isPath]

def tagEmits (g : GIn) : List Emit :=
  match g.tagOn with
  | some t => [.tag g.effTagKey t]
  | none => []

theorem exec_tail (ρ : Env) (g : GIn) (σ : St) :
    execL2s ρ σ (tailStmts g) = .ok { σ with out := σ.out ++ tagEmits g } := by
  unfold tagEmits tailStmts
  cases g.tagOn with
  | none => rw [List.append_nil]; rfl
  | some t => rfl

/-- the reference run: bookkeeping values first (the call raises at the first skip-defaults test that raises), then the fields in
order (it raises at the first own condition that raises), then the tag -/
def refRun (eff : MetaCfg) (args : DumpArgs) (vals : S → PyVal) (fks : List (FieldInfo × S)) : Except SErr (List Emit) := do
  let bs ← phase2 eff args vals fks
  let es ← phase3 eff vals fks bs
  pure (es ++ tagEmits (ginOf eff fks))

/-- the body for a class that has no `_pre_dict` hook and no JSON-path keys -/
theorem genBody_plain (p : Char → Bool) (g : GIn) (hpre : g.preDict = false) (hpaths : g.hasPaths = false) :
    genBody p g = L2.s (.line { parts := [.assign false [.name "result".toList] .emptyList] }) ::
      ((if g.fields.isEmpty then [] else
        L2.if_ (.bin (nm "exclude") (.cmp .is_) (.lit .none))
            [.line { parts := [.assign true (skipTargets 0 g.fields) (.lit .false_)] }]
            (some [.line { parts := excludeAssigns p 0 g.fields, sep := [';'] }]) ::
          (sdBlock p g ++ fieldStmts p g 0 g.fields)) ++ tailStmts g) := by
  rw [genBody, hpre, hpaths]
  simp only [Bool.false_eq_true, if_false, List.nil_append, List.append_nil, List.cons_append]

/-- **What the generated body does, for every instance** — no assumption about the comparisons. -/
theorem run_genBody_total (p : Char → Bool) (ρ : Env) (eff : MetaCfg) (args : DumpArgs) (fks : List (FieldInfo × S))
    (vals : S → PyVal) (W : World p eff args fks vals ρ) :
    run ρ (genBody p (ginOf eff fks)) = refRun eff args vals fks := by
  have hfields : (ginOf eff fks).fields = fks.map (fun q => gfieldOf q.1 q.2) := rfl
  have hres : L2.exec ρ {} (L2.s (.line { parts := [.assign false [.name "result".toList] .emptyList] })) = .ok {} := rfl
  unfold run refRun
  rw [genBody_plain p _ rfl (ginOf_hasPaths eff fks), execL2s_cons_ok hres]
  cases hemp : (ginOf eff fks).fields.isEmpty with
  | true =>
    obtain rfl : fks = [] := List.map_eq_nil_iff.1 (List.isEmpty_iff.1 hemp)
    rw [if_pos rfl, List.nil_append, exec_tail]
    unfold phase2
    cases skipDefaultsOn eff args <;> simp [phase2On, phase3, bind, Except.bind, pure, Except.pure]
  | false =>
    obtain ⟨σ1, e1, o1, v1⟩ := exec_ifelse p ρ (ginOf eff fks).fields {}
    have hv1 : SkipVars σ1 (fks.map fun q => excluded args q.1) := by
      rw [hfields, List.map_map, W.exclude] at v1
      exact v1
    rw [if_neg Bool.false_ne_true, List.cons_append, execL2s_cons_ok e1]
    apply Sim.run
    rw [List.append_assoc, execL2s_append]
    refine .bind (exec_sdBlock W σ1 hv1) fun bs σ2 ⟨o2, hl, v2⟩ => ?_
    rw [execL2s_append, hfields]
    refine .bind (exec_fieldStmts W fks bs [] σ2 rfl hl v2) fun es σ3 h3 => ?_
    rw [h3, exec_tail]
    exact .pure (by simp [o1, o2])

theorem bind_ne_stuck {α β : Type} {x : Except SErr α} {f : α → Except SErr β} (hx : x ≠ .error .stuck)
    (hf : ∀ a, f a ≠ .error .stuck) : x >>= f ≠ .error .stuck := by
  cases x with
  | error e => exact fun h => hx (Except.error.inj h ▸ rfl)
  | ok a => exact hf a

theorem liftB_ne_stuck (r : Except DErr Bool) : liftB r ≠ .error .stuck := by
  cases r <;> simp [liftB]

theorem ite_ne_stuck {α : Type} {c : Prop} [Decidable c] {x y : Except SErr α} (hx : x ≠ .error .stuck)
    (hy : y ≠ .error .stuck) : (if c then x else y) ≠ .error .stuck := by
  split <;> assumption

theorem refRun_not_stuck (eff : MetaCfg) (args : DumpArgs) (vals : S → PyVal) (fks : List (FieldInfo × S)) :
    refRun eff args vals fks ≠ .error .stuck := by
  have ok : ∀ {α : Type} (a : α), (pure a : Except SErr α) ≠ .error .stuck := fun _ h => by cases h
  have h2on : ∀ fs : List (FieldInfo × S), phase2On eff args vals fs ≠ .error .stuck := by
    intro fs
    induction fs with
    | nil => exact ok _
    | cons q r ih =>
      exact bind_ne_stuck (ite_ne_stuck (ok _) (liftB_ne_stuck _)) fun b => bind_ne_stuck ih fun bs => ok _
  have hfe : ∀ (sk2 : Bool) (fi : FieldInfo) (k : S) (v : PyVal), fieldEmitE eff sk2 fi k v ≠ .error .stuck := by
    intro sk2 fi k v
    unfold fieldEmitE
    refine ite_ne_stuck (ok _) (ite_ne_stuck (ok _) (ite_ne_stuck (ok _) ?_))
    -- the last branch passes on an exception of the field's own comparison
    cases h : liftB (ownCond eff fi v) with
    | ok oc => exact ok _
    | error e => exact fun h' => liftB_ne_stuck _ (Except.error.inj h' ▸ h)
  have h3 : ∀ (fs : List (FieldInfo × S)) (bs : List Bool), phase3 eff vals fs bs ≠ .error .stuck := by
    intro fs
    induction fs with
    | nil => exact fun _ => ok _
    | cons q r ih => exact fun bs => bind_ne_stuck (hfe _ _ _ _) fun es => bind_ne_stuck (ih _) fun rest => ok _
  exact bind_ne_stuck (ite_ne_stuck (h2on fks) (ok _)) fun bs => bind_ne_stuck (h3 _ _) fun es => ok _

end DW.GenDump
