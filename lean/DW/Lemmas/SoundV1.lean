/- Soundness of the **v1** load engine over its type fragment: whatever `loadV1` returns for any JSON input is an instance
of the annotation (`Sound conformsScalarV1`). Mirrors `DW.Lemmas.Sound` (default engine). -/
import DW.Model.LoadV1
import DW.Lemmas.Sound
import DW.Lemmas.TaggedV1

namespace DW.Props.C05
open DW

/-- the scalar JSON value a scalar Python value came from -/
def pyToJ? : PyVal → Option JVal
  | .none => some .null
  | .bool b => some (.bool b)
  | .int i => some (.int i)
  | .float f => some (.float f)
  | .str s => some (.str s)
  | _ => none

/-- a value is the Literal member `l` the way Python sees it: equal (`==`) and of the same type -/
def litEqPy (l : Lit) (v : PyVal) : Bool :=
  match pyToJ? v with
  | some o => jEqLit o l && jSameType o l
  | none => false

/-- conformance of a scalar result of the v1 engine to its annotation (exact type; Literal by `==` *and* type) -/
def conformsScalarV1 : Ty → PyVal → Bool
  | .none, .none => true
  | .bytes, .bytes false _ => true
  | .bytearray, .bytes true _ => true
  | .literal vs, v => vs.any (fun l => litEqPy l v)
  | t, v => conformsScalar t v

def isScalarTyV1 : Ty → Bool
  | .none | .bytes | .bytearray => true
  | t => isScalarTy t

theorem toPy_toJ (o : JVal) (h : o.hashable = true) : pyToJ? o.toPy = some o := by
  cases o <;> simp [JVal.hashable] at h <;> rfl

/-! As for the default engine, every branch of a v1 scalar template is an error or returns a value built with the
constructor of its annotation. -/

theorem v1Str_conf (o : JVal) : Post (v1Str o) (fun y => conformsScalarV1 .str y = true) := by
  unfold v1Str
  split
  · exact .pure rfl
  · exact asStr_conf _

theorem v1Int_conf (std : Std) (o : JVal) : Post (v1Int std o) (fun y => conformsScalarV1 .int y = true) := by
  unfold v1Int
  repeat' split
  all_goals first | exact .error | exact .pure rfl

theorem v1Bool_conf (o : JVal) : Post (v1Bool o) (fun y => conformsScalarV1 .bool y = true) := by
  unfold v1Bool
  split <;> exact .pure rfl

theorem v1Bytes_conf (std : Std) (o : JVal) :
    Post (v1Bytes std false o) (fun y => conformsScalarV1 .bytes y = true) ∧
    Post (v1Bytes std true o) (fun y => conformsScalarV1 .bytearray y = true) := by
  unfold v1Bytes
  constructor <;> repeat' split
  all_goals first | exact .error | exact .pure rfl

theorem v1Decimal_conf (std : Std) (o : JVal) : Post (v1Decimal std o) (fun y => conformsScalarV1 (.leaf .decimal) y = true) := by
  unfold v1Decimal
  repeat' split
  all_goals first | exact .error | exact .pure rfl

theorem v1Path_conf (std : Std) (o : JVal) : Post (v1Path std o) (fun y => conformsScalarV1 (.leaf .path) y = true) := by
  unfold v1Path
  split <;> first | exact .error | exact .pure rfl

theorem v1Uuid_conf (std : Std) (o : JVal) : Post (v1Uuid std o) (fun y => conformsScalarV1 (.leaf .uuid) y = true) := by
  unfold v1Uuid
  repeat' split
  all_goals first | exact .error | exact .pure rfl

theorem v1Date_conf (std : Std) (o : JVal) : Post (v1Date std o) (fun y => conformsScalarV1 (.leaf .date) y = true) := by
  unfold v1Date
  repeat' split
  all_goals first | exact .error | exact .pure rfl

theorem v1Time_conf (std : Std) (o : JVal) : Post (v1Time std o) (fun y => conformsScalarV1 (.leaf .time) y = true) := by
  unfold v1Time
  repeat' split
  all_goals first | exact .error | exact .pure rfl

theorem v1Datetime_conf (std : Std) (o : JVal) : Post (v1Datetime std o) (fun y => conformsScalarV1 (.leaf .datetime) y = true) := by
  unfold v1Datetime
  repeat' split
  all_goals first | exact .error | exact .pure rfl

/-- the v1 `Literal` test returns the input itself, which one member matches by value and type -/
theorem v1Literal_conf (vs : List Lit) (o : JVal) : Post (v1Literal vs o) (fun y => conformsScalarV1 (.literal vs) y = true) := by
  unfold v1Literal
  refine .ite (fun _ => .error) fun hh => .ite (fun hany => .pure ?_) (fun _ => .error)
  obtain ⟨l, hl, hm⟩ := List.any_eq_true.1 hany
  have hhash : o.hashable = true := by simpa using hh
  exact List.any_eq_true.2 ⟨l, hl, by simp only [litEqPy, toPy_toJ o hhash]; exact hm⟩

theorem sound_scalar_v1 (std : Std) (cfg : Option MetaCfg) (t : Ty) (ht : isScalarTyV1 t = true) (o : JVal) (y : PyVal)
    (h : loadV1 std cfg t o = .ok y) : conformsScalarV1 t y = true := by
  -- at each scalar annotation `loadV1` is, by definition, the template of that annotation
  cases t <;> first | cases ht | skip
  case none => cases h; rfl
  case int => exact v1Int_conf std o y h
  case float => exact (asFloat_conf std o).mapError y h
  case str => exact v1Str_conf o y h
  case bool => exact v1Bool_conf o y h
  case bytes => exact (v1Bytes_conf std o).1 y h
  case bytearray => exact (v1Bytes_conf std o).2 y h
  case leaf k =>
    cases k
    · exact v1Decimal_conf std o y h
    · exact v1Path_conf std o y h
    · exact v1Uuid_conf std o y h
    · exact v1Date_conf std o y h
    · exact v1Time_conf std o y h
    · exact v1Datetime_conf std o y h
  case timedelta => exact (asTimedelta_conf std o).mapError y h
  case enum n ms => exact (asEnum_conf n ms o).mapError y h
  case literal vs => exact v1Literal_conf vs o y h

/-- defaulted NamedTuple fields come last (Python rejects a class body where a field without default follows one with) -/
def trailingDefaults : List (S × Ty × Option Dflt) → Bool
  | [] => true
  | f :: r => if f.2.2.isSome then r.all (fun g => g.2.2.isSome) else trailingDefaults r

/-- the fragment of the v1 type grammar covered by `C05_v1_sound` -/
inductive FragV1 : Ty → Prop
  | scalar (t : Ty) : isScalarTyV1 t = true → FragV1 t
  | any : FragV1 .any
  | optional (t : Ty) : FragV1 t → FragV1 (.optional t)
  | seq (k : SeqKind) (t : Ty) : FragV1 t → FragV1 (.seq k t)
  | vtuple (t : Ty) : FragV1 t → FragV1 (.vtuple t)
  | tuple (ts : List Ty) : ts ≠ [] → (∀ t ∈ ts, FragV1 t) → FragV1 (.tuple ts)
  | map (k : MapKind) (kt vt : Ty) : FragV1 kt → FragV1 vt → FragV1 (.map k kt vt)
  | typeddict (name : S) (fields : List (S × Ty × Bool)) : (fields.map (·.1)).Nodup → (∀ f ∈ fields, FragV1 f.2.1) →
      FragV1 (.typeddict name fields)
  | cls (ci : ClassInfo) (ftys : List (S × Ty)) : (∀ p ∈ ftys, FragV1 p.2) → FragV1 (.cls ci ftys)
  | union (ts : List Ty) : (∀ t ∈ ts, isNoneArg t = false → FragV1 t) → FragV1 (.union ts)
  | ntuple (name : S) (fields : List (S × Ty × Option Dflt)) : trailingDefaults fields = true → (∀ f ∈ fields, FragV1 f.2.1) →
      FragV1 (.ntuple name fields)

abbrev SoundV1 := Sound conformsScalarV1

variable {C : Ty → PyVal → Bool}

theorem v1Tuple_post (std : Std) (cfg : Option MetaCfg) (o : JVal) {P : Ty → PyVal → Prop} (ts : List Ty) (k : Nat)
    (h : ∀ t ∈ ts, ∀ o, Post (loadV1 std cfg t o) (P t)) :
    Post (v1Tuple std cfg ts k o) (fun ys => ys.length = ts.length ∧ ∀ p ∈ ts.zip ys, P p.1 p.2) := by
  induction ts generalizing k with
  | nil => rw [v1Tuple]; exact .pure ⟨rfl, fun _ h => nomatch h⟩
  | cons t ts ih =>
    obtain ⟨ht, hts⟩ := List.forall_mem_cons.1 h
    unfold v1Tuple
    split
    · split <;> exact .error
    · next x _ =>
      exact .bind (ht x) fun y hy => .bind (ih (k + 1) hts) fun ys ⟨h1, h2⟩ =>
        .pure ⟨congrArg (· + 1) h1, forall_zip_cons hy h2⟩

theorem v1WithCatchAll_mem (ci : ClassInfo) (kw : List (S × PyVal)) (b : Bool) (ca : List (PyVal × PyVal)) (p : S × PyVal)
    (hp : p ∈ v1WithCatchAll ci kw b ca) : p ∈ kw ∨ catchAllOrigin ci p.1 := by
  unfold v1WithCatchAll at hp
  split at hp
  · exact .inl hp
  · next cf hcf =>
    split at hp
    · refine (List.mem_append.1 hp).imp id fun h => ?_
      exact ⟨cf, List.mem_of_find?_eq_some hcf, List.find?_some hcf, by rw [List.mem_singleton.1 h]⟩
    · exact .inl hp

theorem v1Class_sound (FL : S → JVal → LRes) (eff : MetaCfg) (ci : ClassInfo) (ftys : List (S × Ty))
    (hFL : ∀ f v, Post (FL f v) (fun y => ∃ t, tyOf ftys f = some t ∧ Sound C t y)) (o : JVal) :
    Post (v1ClassWith FL eff ci o) (Sound C (.cls ci ftys)) := by
  unfold v1ClassWith
  split
  · exact .error
  · refine .bind (DW.Lemmas.V1.v1Fields_post hFL eff ci _ ci.fields) fun ⟨kw, found⟩ hkw => ?_
    exact .ite (fun _ => .error) fun _ => finishKw_sound ci ftys _ fun p hp => (v1WithCatchAll_mem ci kw _ _ p hp).imp (hkw p) id
  · exact .error

theorem v1Tagged_post (std : Std) (cfg : Option MetaCfg) (tg : S) (o : JVal) {P : PyVal → Prop} (ts : List Ty)
    (h : ∀ ci ftys, Ty.cls ci ftys ∈ ts → Post (loadV1 std cfg (.cls ci ftys) o) P) : Post (v1Tagged std cfg tg ts o) P := by
  rw [Tagged.v1Tagged_eq_pick]
  split
  · next ci ftys hp => exact h ci ftys (Tagged.pick_mem cfg tg ci ftys ts hp)
  · exact .error

theorem exactKind_conf (t : Ty) (o : JVal) (h : exactKind t = some o.kind) : conformsScalarV1 t o.toPy = true := by
  -- `t` is one of the four simple types, and `h` then fixes the constructor of `o`
  unfold exactKind at h
  split at h <;> cases o <;> cases h <;> rfl

/-- a try-parse step: a result is the member's own result, or comes from the members after it -/
theorem tryParse_post {P : PyVal → Prop} {r : LRes} {rest : Option LRes} {res : LRes}
    (h : (match r with
          | .ok y => some (.ok y)
          | .error (.unsupported w) => some (.error (.unsupported w))
          | .error _ => rest) = some res)
    (hr : Post r P) (hrest : ∀ res, rest = some res → Post res P) : Post res P := by
  split at h
  · cases h; exact hr
  · cases h; exact .error
  · exact hrest res h

theorem v1UnionExact_post (std : Std) (cfg : Option MetaCfg) (o : JVal) {P : PyVal → Prop} (ts : List Ty)
    (hts : ∀ t ∈ ts, isNoneArg t = false → Post (loadV1 std cfg t o) P)
    (hks : ∀ t ∈ ts, isNoneArg t = false → exactKind t = some o.kind → P o.toPy)
    (r : LRes) (h : v1UnionExact std cfg ts o = some r) : Post r P := by
  induction ts generalizing r with
  | nil => rw [v1UnionExact] at h; cases h
  | cons t ts ih =>
    obtain ⟨ht, hts⟩ := List.forall_mem_cons.1 hts
    obtain ⟨hk, hks⟩ := List.forall_mem_cons.1 hks
    have ih := ih hts hks
    unfold v1UnionExact at h
    split at h
    · exact ih r h
    · split at h
      · exact ih r h
      · exact tryParse_post h (ht rfl) ih
    · next hn _ =>
      have hn := isNoneArg_of_ne hn
      split at h
      · split at h
        · next he => cases h; exact .pure (hk hn (eq_of_beq he))
        · exact ih r h
      · exact tryParse_post h (ht hn) ih

theorem v1UnionCoerce_post (std : Std) (cfg : Option MetaCfg) (o : JVal) {P : PyVal → Prop} (ts : List Ty)
    (hts : ∀ t ∈ ts, isNoneArg t = false → Post (loadV1 std cfg t o) P) (r : LRes) (h : v1UnionCoerce std cfg ts o = some r) :
    Post r P := by
  induction ts generalizing r with
  | nil => rw [v1UnionCoerce] at h; cases h
  | cons t ts ih =>
    obtain ⟨ht, hts⟩ := List.forall_mem_cons.1 hts
    have ih := ih hts
    unfold v1UnionCoerce at h
    split at h
    · -- `NoneType` is never coerced: its test reads `… && false`
      exact ih r h
    · next hn =>
      split at h
      · exact tryParse_post h (ht (isNoneArg_of_ne hn)) ih
      · exact ih r h

theorem all_drop {α : Type} (p : α → Bool) : ∀ (l : List α) (n : Nat), l.all p = true → (l.drop n).all p = true :=
  fun _ _ h => List.all_eq_true.2 fun x hx => List.all_eq_true.1 h x (List.mem_of_mem_drop hx)

theorem trailing_of_all : ∀ (l : List (S × Ty × Option Dflt)), l.all (fun g => g.2.2.isSome) = true → trailingDefaults l = true
  | [], _ => rfl
  | f :: r, h => by
    simp only [List.all_cons, Bool.and_eq_true] at h
    simp [trailingDefaults, h.1, h.2]

theorem trailingDefaults_cons {f : S × Ty × Option Dflt} {r : List (S × Ty × Option Dflt)} (h : trailingDefaults (f :: r) = true) :
    trailingDefaults r = true ∧ (f.2.2.isSome = true → r.all (fun g => g.2.2.isSome) = true) := by
  unfold trailingDefaults at h
  split at h
  · exact ⟨trailing_of_all r h, fun _ => h⟩
  · next hf => exact ⟨h, fun hs => absurd hs hf⟩

theorem v1NtSeq_spec (std : Std) (cfg : Option MetaCfg) (name : S) (n : Nat) (o : JVal) {P : Ty → PyVal → Prop}
    (fields : List (S × Ty × Option Dflt)) (k : Nat)
    (h : ∀ f ∈ fields, ∀ o, Post (loadV1 std cfg f.2.1 o) (P f.2.1)) (htr : trailingDefaults fields = true) :
    Post (v1NtSeq std cfg name fields k n o) (fun ys =>
      ys.length ≤ fields.length ∧ (∀ p ∈ fields.zip ys, P p.1.2.1 p.2) ∧
      (fields.drop ys.length).all (fun g => g.2.2.isSome) = true) := by
  induction fields generalizing k with
  | nil => rw [v1NtSeq]; exact .pure ⟨Nat.le_refl _, fun _ h => (nomatch h), rfl⟩
  | cons f fs ih =>
    obtain ⟨fname, t, d⟩ := f
    obtain ⟨hf, hfs⟩ := List.forall_mem_cons.1 h
    obtain ⟨htr', hall⟩ := trailingDefaults_cons htr
    unfold v1NtSeq
    refine .ite (fun _ => ?_) fun _ => ?_
    · -- k < n: the field is taken from the sequence
      split
      · exact .error
      · next x _ =>
        split
        · exact .ite (fun _ => .error) (fun _ => .error)
        · exact .error
        · next y hy =>
          exact .bind (ih (k + 1) hfs htr') fun ys ⟨h1, h2, h3⟩ =>
            .pure ⟨Nat.succ_le_succ h1, forall_zip_cons (hf x y hy) h2, h3⟩
    · -- beyond the end of the sequence: a field without default raises; else nothing is taken, and every later field has a default too
      refine .ite (fun _ => .error) fun hd => ?_
      have hsome : d.isSome = true := Option.isNone_eq_false_iff.1 (Bool.eq_false_iff.2 hd)
      exact .pure ⟨Nat.zero_le _, fun _ h => (nomatch h), by rw [List.length_nil, List.drop_zero, List.all_cons, hsome, hall hsome]; rfl⟩

theorem soundV1 (std : Std) (cfg : Option MetaCfg) (t : Ty) (hf : FragV1 t) : ∀ (o : JVal) (y : PyVal),
    loadV1 std cfg t o = .ok y → SoundV1 t y := by
  show ∀ o, Post (loadV1 std cfg t o) (SoundV1 t)
  induction hf with
  | scalar t ht => exact fun o y h => .scalar t y (sound_scalar_v1 std cfg t ht o y h)
  | any => exact fun o y _ => .any y
  | optional t _ ih =>
    intro o; unfold loadV1; split
    · exact .pure (.optNone t)
    · exact (ih o).mono (.optSome t)
  | seq k t _ ih =>
    intro o; unfold loadV1; split
    · exact .error
    · exact .bind (.mapME fun x _ => ih x) fun ys hys => (mkSeq_sound t k ys hys).mapError
  | vtuple t _ ih =>
    intro o; unfold loadV1; split
    · exact .error
    · exact .bind (.mapME fun x _ => ih x) fun ys hys => .pure (.vtuple t ys hys)
  | tuple ts hne _ ih =>
    intro o; unfold loadV1; rw [if_neg (mt List.isEmpty_iff.1 hne)]
    exact .bind (v1Tuple_post std cfg o ts 0 ih) fun ys ⟨h1, h2⟩ => .pure (.tuple ts ys h1 h2)
  | map k kt vt _ _ ihk ihv =>
    intro o; unfold loadV1; split
    · exact .bind (.mapME fun kv _ => .bind (ihk _) fun _ hk => .bind (ihv _) fun _ hv => .pure ⟨hk, hv⟩)
        fun ps hps => (mkMap_sound kt vt k ps hps).mapError
    · exact .error
  | typeddict name fields hnd _ ih =>
    intro o; unfold loadV1; split
    · next kvs =>
      rw [v1Td_eq]
      have := tdWith_sound name fields hnd ih kvs
      split
      · next ps hps => exact .pure (this ps hps)
      · exact .error
    · exact .error
  | cls ci ftys _ ih =>
    intro o; unfold loadV1
    exact v1Class_sound _ _ ci ftys (fun f v => v1Field_eq std cfg f v ftys ▸ fieldWith_post ih f v) o
  | union ts _ ih =>
    intro o; unfold loadV1
    have hmem : ∀ t ∈ ts, isNoneArg t = false → Post (loadV1 std cfg t o) (SoundV1 (.union ts)) :=
      fun t ht hn => (ih t ht hn o).mono fun y => .union ts t y ht hn
    refine .ite (fun hc => .pure (unionNone_sound ts o hc)) fun _ => ?_
    dsimp only
    split
    · split
      · exact v1Tagged_post std cfg _ o ts fun ci ftys hm => hmem _ hm rfl
      · exact .error
    · split
      · next r hr =>
        exact v1UnionExact_post std cfg o ts hmem
          (fun t ht hn hk => .union ts t _ ht hn (.scalar t _ (exactKind_conf t o hk))) r hr
      · split
        · next r hr => exact v1UnionCoerce_post std cfg o ts hmem r hr
        · exact .error
  | ntuple name fields htr _ ih =>
    intro o; unfold loadV1; split
    · split
      · exact .error
      · next hany =>
        split
        · -- the empty dict: every field takes its default
          have hall : fields.all (fun g => g.2.2.isSome) = true := List.all_eq_true.2 fun f hf =>
            Option.isNone_eq_false_iff.1 (Bool.eq_false_iff.2 fun hn => hany (List.any_eq_true.2 ⟨f, hf, hn⟩))
          exact .pure (ntuple_prefix_sound name fields [] (Nat.zero_le _) (fun _ h => by simp at h) hall)
        · exact .error
    · split
      · exact .error
      · exact .bind (v1NtSeq_spec std cfg name _ o fields 0 ih htr) fun ys ⟨hle, hs, hall⟩ =>
          .pure (ntuple_prefix_sound name fields ys hle hs hall)

end DW.Props.C05
