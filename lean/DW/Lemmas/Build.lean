/- The constructor step `cls(**kwargs)` (`buildFields`, `finishKw`, `finishClass`), one field at a time: what a field receives
(`fieldValue`), the equation the lemmas below and the round trip go through (`buildFields_cons`), and what follows for the whole
field list. -/
import DW.Model.LoadV1
import DW.Lemmas.Except

namespace DW.Props.C09
open DW

/-- the per-field outcome of `cls(**init_kwargs)`: the last value supplied for the field if any,
else its declared default (a fresh product: `Dflt.toPy` builds a new value on every call). -/
def fieldValue (kwargs : List (S × PyVal)) (f : FieldInfo) : Option PyVal :=
  match (if f.init then kwargs.reverse.find? (fun p => p.1 == f.name) else none), f.dflt with
  | some p, _ => some p.2
  | none, some d => some d.toPy
  | none, none => f.postInit.map Lit.toPy

end DW.Props.C09

namespace DW.Build
open DW DW.Props.C09

theorem exists_mem_cons_of_exists {α : Type} {a : α} {l : List α} {p : α → Prop} : (∃ x ∈ l, p x) → ∃ x ∈ a :: l, p x
  | ⟨x, hx, h⟩ => ⟨x, List.mem_cons_of_mem _ hx, h⟩

theorem fieldValue_initFalse (kw kw' : List (S × PyVal)) (f : FieldInfo) (hi : f.init = false) :
    fieldValue kw f = fieldValue kw' f := by
  rw [fieldValue, fieldValue, hi]; rfl

theorem fieldValue_isSome_of_dflt (kw : List (S × PyVal)) (f : FieldInfo) (hd : f.dflt.isSome = true) :
    (fieldValue kw f).isSome = true := by
  obtain ⟨d, hd⟩ := Option.isSome_iff_exists.1 hd
  rw [fieldValue, hd]
  split <;> first | rfl | contradiction

theorem fieldValue_isSome_of_mem (kw : List (S × PyVal)) (f : FieldInfo) (hi : f.init = true)
    (hm : f.name ∈ kw.map (·.1)) : (fieldValue kw f).isSome = true := by
  obtain ⟨q, hq, hqn⟩ := List.mem_map.1 hm
  have hfind : (kw.reverse.find? (fun p => p.1 == f.name)).isSome = true :=
    List.find?_isSome.2 ⟨q, List.mem_reverse.2 hq, beq_iff_eq.2 hqn⟩
  obtain ⟨p, hp⟩ := Option.isSome_iff_exists.1 hfind
  rw [fieldValue, if_pos hi, hp]; rfl

theorem fieldValue_origin (kw : List (S × PyVal)) (f : FieldInfo) (v : PyVal) (h : fieldValue kw f = some v) :
    (f.name, v) ∈ kw ∨ f.dflt.map Dflt.toPy = some v ∨ f.postInit.map Lit.toPy = some v := by
  unfold fieldValue at h
  split at h
  · next p hfind =>
    cases h
    split at hfind
    · have hk := List.find?_some hfind
      have hk : p.1 = f.name := eq_of_beq hk
      exact .inl (hk ▸ List.mem_reverse.1 (List.mem_of_find?_eq_some hfind))
    · cases hfind
  · next d hd => cases h; exact .inr (.inl (by rw [hd]; rfl))
  · exact .inr (.inr h)

theorem buildFields_cons (kw : List (S × PyVal)) (f : FieldInfo) (r : List FieldInfo) :
    buildFields kw (f :: r) = match fieldValue kw f with
      | some v => do let rest ← buildFields kw r; pure ((f.name, v) :: rest)
      | none => .error (.unsupported "init=False field without default".toList) := by
  rw [buildFields, fieldValue]
  generalize (if f.init then kw.reverse.find? (fun p => p.1 == f.name) else none) = x
  cases x <;> cases f.dflt <;> cases f.postInit <;> rfl

theorem buildFields_cons_ok {kw : List (S × PyVal)} {f : FieldInfo} {r : List FieldInfo} {out : List (S × PyVal)} :
    buildFields kw (f :: r) = .ok out ↔
      ∃ v rest, fieldValue kw f = some v ∧ buildFields kw r = .ok rest ∧ out = (f.name, v) :: rest := by
  rw [buildFields_cons]
  cases fieldValue kw f with
  | none => exact ⟨fun h => (nomatch h), fun ⟨_, _, h, _⟩ => (nomatch h)⟩
  | some v =>
    simp only [Except.bind_eq_ok, Except.pure_eq_ok]
    constructor
    · rintro ⟨rest, hr, rfl⟩; exact ⟨v, rest, rfl, hr, rfl⟩
    · rintro ⟨_, rest, ⟨rfl⟩, hr, rfl⟩; exact ⟨rest, hr, rfl⟩

theorem buildFields_error (kw : List (S × PyVal)) (fs : List FieldInfo) (e : LErr) (h : buildFields kw fs = .error e) :
    e = .unsupported "init=False field without default".toList := by
  induction fs with
  | nil => cases h
  | cons f r ih =>
    rw [buildFields_cons] at h
    split at h
    · rcases Except.bind_eq_error.mp h with h | ⟨_, _, h⟩
      · exact ih h
      · cases h
    · cases h; rfl

theorem buildFields_spec (kw : List (S × PyVal)) (fs : List FieldInfo) (out : List (S × PyVal))
    (h : buildFields kw fs = .ok out) :
    out.map (·.1) = fs.map (·.name) ∧ ∀ p ∈ out, ∃ f ∈ fs, p.1 = f.name ∧ fieldValue kw f = some p.2 := by
  induction fs generalizing out with
  | nil => cases h; exact ⟨rfl, fun _ h => nomatch h⟩
  | cons f r ih =>
    obtain ⟨v, rest, hv, hr, rfl⟩ := buildFields_cons_ok.mp h
    obtain ⟨h1, h2⟩ := ih rest hr
    exact ⟨by rw [List.map_cons, List.map_cons, h1],
      List.forall_mem_cons.2 ⟨⟨f, List.mem_cons_self .., rfl, hv⟩, fun q hq => exists_mem_cons_of_exists (h2 q hq)⟩⟩

theorem buildFields_isOk_iff (kw : List (S × PyVal)) : ∀ fs : List FieldInfo,
    (∃ out, buildFields kw fs = .ok out) ↔ ∀ f ∈ fs, (fieldValue kw f).isSome = true
  | [] => ⟨fun _ _ h => (nomatch h), fun _ => ⟨[], rfl⟩⟩
  | f :: r => by
    rw [List.forall_mem_cons, ← buildFields_isOk_iff kw r]
    constructor
    · rintro ⟨out, h⟩
      obtain ⟨v, rest, hv, hr, _⟩ := buildFields_cons_ok.mp h
      exact ⟨by rw [hv]; rfl, rest, hr⟩
    · rintro ⟨hv, rest, hr⟩
      obtain ⟨v, hv⟩ := Option.isSome_iff_exists.1 hv
      exact ⟨_, buildFields_cons_ok.mpr ⟨v, rest, hv, hr, rfl⟩⟩

theorem finishKw_ok_iff {ci : ClassInfo} {K : List (S × PyVal)} {x : PyVal} :
    finishKw ci K = .ok x ↔
      missingInit ci (K.map (·.1)) = [] ∧ ∃ fs, buildFields K ci.fields = .ok fs ∧ x = .inst ci fs := by
  unfold finishKw
  split
  · next hm =>
    cases buildFields K ci.fields with
    | error e => exact ⟨fun h => (nomatch h), fun ⟨_, _, h, _⟩ => (nomatch h)⟩
    | ok fs => exact ⟨fun h => ⟨hm, fs, rfl, (Except.ok.inj h).symm⟩, fun ⟨_, _, h, hx⟩ => by cases h; rw [hx]; rfl⟩
  · next hm => exact ⟨fun h => (nomatch h), fun ⟨h, _⟩ => absurd h (by rw [hm]; exact List.cons_ne_nil _ _)⟩

theorem finishClass_eq (ci : ClassInfo) (kw : List (S × PyVal)) (ca : List (PyVal × PyVal)) (o : JVal) :
    finishClass ci kw ca o = finishKw ci (withCatchAll ci kw ca) := rfl

theorem finishClass_noCatchAll (ci : ClassInfo) (kw : List (S × PyVal)) (ca : List (PyVal × PyVal)) (o : JVal)
    (hc : ci.fields.find? (·.isCatchAll) = none) : finishClass ci kw ca o = finishKw ci kw := by
  rw [finishClass_eq, withCatchAll, hc]

end DW.Build
