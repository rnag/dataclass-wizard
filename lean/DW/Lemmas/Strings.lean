/- `replaceFirst` on a single character: the `Z` rewrite of ISO datetimes (`zToOffset`) and the numeric-form test (`looksNumeric`). -/
import DW.Model.Load

namespace DW

theorem prefix_append_drop (p l : S) (h : p <+: l) : p ++ l.drop p.length = l :=
  List.prefix_iff_eq_append.1 h

theorem replaceFirst_cons_pos (old new : S) (c : Char) (r : S) (h : old <+: c :: r) :
    replaceFirst old new (c :: r) = new ++ (c :: r).drop old.length := by
  rw [replaceFirst, if_pos (List.isPrefixOf_iff_prefix.mpr h)]

theorem replaceFirst_cons_neg (old new : S) (c : Char) (r : S) (h : ¬ old <+: c :: r) :
    replaceFirst old new (c :: r) = c :: replaceFirst old new r := by
  rw [replaceFirst, if_neg (mt List.isPrefixOf_iff_prefix.mp h)]

theorem replaceFirst_char_cons (a : Char) (new : S) (c : Char) (r : S) :
    replaceFirst [a] new (c :: r) = if c = a then new ++ r else c :: replaceFirst [a] new r := by
  by_cases h : c = a
  · subst h
    rw [replaceFirst_cons_pos _ _ _ _ ⟨r, rfl⟩, if_pos rfl]
    rfl
  · have hp : ¬ [a] <+: c :: r := fun ⟨_, ht⟩ => h (List.cons.inj ht).1.symm
    rw [replaceFirst_cons_neg _ _ _ _ hp, if_neg h]

theorem replaceFirst_char_of_not_mem (a : Char) (new t : S) (h : a ∉ t) : replaceFirst [a] new t = t := by
  induction t with
  | nil => rfl
  | cons c r ih =>
    rw [List.mem_cons, not_or] at h
    rw [replaceFirst_char_cons, if_neg (Ne.symm h.1), ih h.2]

theorem replaceFirst_char_append (a : Char) (new x y : S) (h : a ∉ x) :
    replaceFirst [a] new (x ++ a :: y) = x ++ new ++ y := by
  induction x with
  | nil => rw [List.nil_append, replaceFirst_char_cons, if_pos rfl]; rfl
  | cons c r ih =>
    rw [List.mem_cons, not_or] at h
    rw [List.cons_append, replaceFirst_char_cons, if_neg (Ne.symm h.1), ih h.2]
    rfl

theorem mem_replaceFirst_char (a : Char) (new : S) {c : Char} (hc : c ≠ a) {s : S} (h : c ∈ s) :
    c ∈ replaceFirst [a] new s := by
  induction s with
  | nil => cases h
  | cons d r ih =>
    rw [replaceFirst_char_cons]
    rcases List.mem_cons.1 h with rfl | h
    · rw [if_neg hc]; exact List.mem_cons_self
    · split
      · exact List.mem_append_right _ h
      · exact List.mem_cons_of_mem _ (ih h)

/-- `s.replace('Z', '+00:00', 1)` (load side) undoes the dump side's rewrite of a trailing `+00:00` into `Z`
on any text without a `Z`. -/
theorem zToOffset_isoZ (t : S) (h : 'Z' ∉ t) : zToOffset (isoZ t) = t := by
  unfold zToOffset isoZ
  split
  · next hs =>
    obtain ⟨a, ha⟩ := List.isSuffixOf_iff_suffix.mp hs
    have htake : t.take (t.length - 6) = a := by rw [← ha]; simp
    have hza : 'Z' ∉ a := fun hz => h (by rw [← ha]; exact List.mem_append_left _ hz)
    rw [htake, replaceFirst_char_append 'Z' _ a [] hza, List.append_nil, ha]
  · exact replaceFirst_char_of_not_mem 'Z' _ t h

theorem looksNumeric_false_of_mem {c : Char} {s : S} (h : c ∈ s) (hc : Str.isDig c = false) (hdot : c ≠ '.') :
    looksNumeric s = false := by
  have : (replaceFirst ['.'] [] s).all Str.isDig = false :=
    List.all_eq_false.2 ⟨c, mem_replaceFirst_char '.' [] hdot h, by simp [hc]⟩
  simp [looksNumeric, this]

end DW
