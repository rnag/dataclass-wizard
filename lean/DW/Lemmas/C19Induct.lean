/- The recursion of the schema inference (`inferFields` / `inferElems`) as one induction principle, with the five
scalar kinds of JSON value as one case. -/
import DW.Model.C19

namespace DW.Gs
open DW DW.Str

def _root_.DW.JVal.IsScalar : JVal → Prop
  | .dict _ => False
  | .list _ => False
  | _ => True

theorem _root_.DW.JVal.kindCases {motive : JVal → Prop} (dict : ∀ kvs, motive (.dict kvs))
    (list : ∀ xs, motive (.list xs)) (scalar : ∀ v, JVal.IsScalar v → motive v) : ∀ v, motive v
  | .dict kvs => dict kvs
  | .list xs => list xs
  | .null => scalar _ trivial
  | .bool _ => scalar _ trivial
  | .int _ => scalar _ trivial
  | .float _ => scalar _ trivial
  | .str _ => scalar _ trivial

theorem inferFields_scalar (std : GsStd) (fl : Flags) (lvl : Nat) (k : S) {v : JVal} (hv : v.IsScalar)
    (rest : List (S × JVal)) (acc : Fields) :
    inferFields std fl lvl ((k, v) :: rest) acc = inferFields std fl lvl rest (fieldScalar std fl k v acc) := by
  cases v with
  | dict _ | list _ => exact hv.elim
  | null | bool _ | int _ | float _ | str _ => rw [inferFields]

theorem inferElems_scalar (std : GsStd) (fl : Flags) (name : S) (isRoot : Bool) (lvl : Nat) {v : JVal} (hv : v.IsScalar)
    (rest : List JVal) (acc : TC) :
    inferElems std fl name isRoot lvl (v :: rest) acc =
      inferElems std fl name isRoot lvl rest (tcAppendScalar acc (scalarPrims std fl.forceStrings v)) := by
  cases v with
  | dict _ | list _ => exact hv.elim
  | null | bool _ | int _ | float _ | str _ => rw [inferElems]

theorem rootExtras_scalar (std : GsStd) (fl : Flags) (lvl : Nat) {v : JVal} (hv : v.IsScalar) (rest : List JVal) :
    rootExtras std fl lvl (v :: rest) =
      tcAppendScalar ([], false) (scalarPrims std fl.forceStrings v) :: rootExtras std fl lvl rest := by
  cases v with
  | dict _ | list _ => exact hv.elim
  | null | bool _ | int _ | float _ | str _ => rw [rootExtras]

/-- `IF lvl kvs acc r` stands for "`r` is `inferFields std fl lvl kvs acc`", `IE name isRoot lvl xs acc r` for
"`r` is `inferElems ..`": inference computes the least relations closed under the eight rules. Stating the rules about
a result `r` (and not about the function applied to its arguments) means that a property of inference is proved by
giving the two relations and checking the rules, without unfolding `inferFields` or recursing: a mutual recursion
over `List (S × JVal)` and `List JVal` is not structural for Lean (no function of the block takes a `JVal`), and
compiled by well-founded recursion it is slow to check. Derived from Lean's own `inferFields.mutual_induct`. -/
theorem infer_induct (std : GsStd) (fl : Flags)
    {IF : Nat → List (S × JVal) → Fields → Fields → Prop} {IE : S → Bool → Nat → List JVal → TC → TC → Prop}
    (f_nil : ∀ lvl acc, IF lvl [] acc acc)
    (f_dict : ∀ lvl k kvs rest acc fs r, IF lvl kvs [] fs →
      IF lvl rest (fieldsUpdate (toSnake k) (fun tc => tcAppend fl.dedupByEq tc (.cls (.mk (pascal k) false fs))) acc) r →
      IF lvl ((k, .dict kvs) :: rest) acc r)
    (f_list : ∀ lvl k xs rest acc tc r, IE (lgName std (some k) (lvl + 1)) false (lvl + 1) xs ([], false) tc →
      IF (lvl + 1) rest (fieldsUpdate (toSnake k)
        (fun t => tcAppend fl.dedupByEq t (.lst (.mk xs k (lgName std (some k) (lvl + 1)) tc.1 tc.2))) acc) r →
      IF lvl ((k, .list xs) :: rest) acc r)
    (f_scalar : ∀ lvl k v rest acc r, v.IsScalar → IF lvl rest (fieldScalar std fl k v acc) r →
      IF lvl ((k, v) :: rest) acc r)
    (e_nil : ∀ name isRoot lvl acc, IE name isRoot lvl [] acc acc)
    (e_dict : ∀ name isRoot lvl kvs rest acc fs r, IF lvl kvs [] fs →
      IE name isRoot lvl rest (elemsAddCls fl.dedupByEq acc (.mk (pascal name) isRoot fs)) r →
      IE name isRoot lvl (.dict kvs :: rest) acc r)
    (e_list : ∀ name isRoot lvl ys rest acc tc r, IE (lgName std none (lvl + 1)) false (lvl + 1) ys ([], false) tc →
      IE name isRoot (lvl + 1) rest
        (tcAppend fl.dedupByEq acc (.lst (.mk ys "container".toList (lgName std none (lvl + 1)) tc.1 tc.2))) r →
      IE name isRoot lvl (.list ys :: rest) acc r)
    (e_scalar : ∀ name isRoot lvl v rest acc r, v.IsScalar →
      IE name isRoot lvl rest (tcAppendScalar acc (scalarPrims std fl.forceStrings v)) r →
      IE name isRoot lvl (v :: rest) acc r) :
    (∀ lvl kvs acc, IF lvl kvs acc (inferFields std fl lvl kvs acc)) ∧
    (∀ name isRoot lvl xs acc, IE name isRoot lvl xs acc (inferElems std fl name isRoot lvl xs acc)) := by
  have fs : ∀ lvl k v rest acc, JVal.IsScalar v →
      IF lvl rest (fieldScalar std fl k v acc) (inferFields std fl lvl rest (fieldScalar std fl k v acc)) →
      IF lvl ((k, v) :: rest) acc (inferFields std fl lvl ((k, v) :: rest) acc) := by
    intro lvl k v rest acc hv ih
    rw [inferFields_scalar std fl lvl k hv]; exact f_scalar lvl k v rest acc _ hv ih
  have es : ∀ name isRoot lvl v rest acc, JVal.IsScalar v →
      IE name isRoot lvl rest (tcAppendScalar acc (scalarPrims std fl.forceStrings v))
        (inferElems std fl name isRoot lvl rest (tcAppendScalar acc (scalarPrims std fl.forceStrings v))) →
      IE name isRoot lvl (v :: rest) acc (inferElems std fl name isRoot lvl (v :: rest) acc) := by
    intro name isRoot lvl v rest acc hv ih
    rw [inferElems_scalar std fl name isRoot lvl hv]; exact e_scalar name isRoot lvl v rest acc _ hv ih
  exact inferFields.mutual_induct std fl (fun lvl kvs acc => IF lvl kvs acc (inferFields std fl lvl kvs acc))
    (fun name isRoot lvl xs acc => IE name isRoot lvl xs acc (inferElems std fl name isRoot lvl xs acc))
    (fun lvl acc => by rw [inferFields]; exact f_nil lvl acc)
    (fun lvl k rest acc kvs ih1 ih2 => by rw [inferFields]; exact f_dict lvl k kvs rest acc _ _ ih1 ih2)
    (fun lvl k rest acc xs ih1 _ ih2 => by rw [inferFields]; exact f_list lvl k xs rest acc _ _ ih1 ih2)
    (fun lvl k rest acc => fs lvl k _ rest acc trivial)
    (fun lvl k rest acc b => fs lvl k _ rest acc trivial)
    (fun lvl k rest acc i => fs lvl k _ rest acc trivial)
    (fun lvl k rest acc f => fs lvl k _ rest acc trivial)
    (fun lvl k rest acc s => fs lvl k _ rest acc trivial)
    (fun name isRoot lvl acc => by rw [inferElems]; exact e_nil name isRoot lvl acc)
    (fun name isRoot lvl rest acc kvs ih1 ih2 => by
      rw [inferElems]; exact e_dict name isRoot lvl kvs rest acc _ _ ih1 ih2)
    (fun name isRoot lvl rest acc ys ih1 _ ih2 => by
      rw [inferElems]; exact e_list name isRoot lvl ys rest acc _ _ ih1 ih2)
    (fun name isRoot lvl rest acc => es name isRoot lvl _ rest acc trivial)
    (fun name isRoot lvl rest acc b => es name isRoot lvl _ rest acc trivial)
    (fun name isRoot lvl rest acc i => es name isRoot lvl _ rest acc trivial)
    (fun name isRoot lvl rest acc f => es name isRoot lvl _ rest acc trivial)
    (fun name isRoot lvl rest acc s => es name isRoot lvl _ rest acc trivial)

end DW.Gs
