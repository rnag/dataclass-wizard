/- JSON-safety of dump results: the definitions and the recursion behind `C03_json_safe`. -/
import DW.Lemmas.DumpFields

namespace DW.Props.C03
open DW

mutual
/-- JSON-safety of a dump result: no node the standard encoder would refuse. -/
def jsonSafe : DVal → Bool
  | .bad _ => false
  | .list xs => jsonSafeList xs
  | .tuple xs => jsonSafeList xs
  | .ntuple _ xs => jsonSafeList xs
  | .dict _ kvs => jsonSafePairs kvs
  | _ => true
def jsonSafeList : List DVal → Bool
  | [] => true
  | x :: xs => jsonSafe x && jsonSafeList xs
def jsonSafePairs : List (DVal × DVal) → Bool
  | [] => true
  | (k, v) :: r => jsonSafe k && jsonSafe v && jsonSafePairs r
end

theorem scalar_json_safe (std : Std) (ts : Bool) (v : PyVal) (d : DVal) (hv : v.isScalar = true)
    (h : dumpScalar std ts v = .ok d) : jsonSafe d = true := by
  cases v with
  | none | bool | int | float | str | bytes | timedelta =>
    simp only [dumpScalar_none, dumpScalar_bool, dumpScalar_int, dumpScalar_float, dumpScalar_str, dumpScalar_bytes,
      dumpScalar_timedelta] at h
    cases h; rfl
  | enum c m val => rw [dumpScalar_enum] at h; cases h; cases val <;> rfl
  | leaf k sub t =>
    -- every hook of a leaf value writes a string, or in TIMESTAMP mode an int
    rw [dumpScalar.eq_def] at h
    cases k <;> simp only [hookFor_decimal, hookFor_path, hookFor_uuid, hookFor_date, hookFor_time, hookFor_datetime] at h
    case date | datetime =>
      split at h
      · split at h <;> cases h
        rfl
      · cases h; rfl
    all_goals (cases h; rfl)
  | seq | tuple | map | ntuple | inst => cases hv

mutual
/-- catch-all dictionaries carry scalar keys (what `json.loads` produces); no other restriction -/
def wellKeyed : PyVal → Bool
  | .seq _ xs => wellKeyedList xs
  | .tuple xs => wellKeyedList xs
  | .ntuple _ _ xs => wellKeyedList xs
  | .map _ kvs => wellKeyedPairs kvs
  | .inst ci fs => wellKeyedFields ci fs
  | _ => true
def wellKeyedList : List PyVal → Bool
  | [] => true
  | x :: xs => wellKeyed x && wellKeyedList xs
def wellKeyedPairs : List (PyVal × PyVal) → Bool
  | [] => true
  | (k, v) :: r => wellKeyed k && wellKeyed v && wellKeyedPairs r
def wellKeyedFields : ClassInfo → List (S × PyVal) → Bool
  | _, [] => true
  | ci, (n, v) :: r =>
    (if ((ci.fields.find? (fun f => f.name == n)).getD { name := n }).isCatchAll then catchVal v else wellKeyed v)
      && wellKeyedFields ci r
def catchVal : PyVal → Bool
  | .map _ kvs => catchKeys kvs
  | _ => true
def catchKeys : List (PyVal × PyVal) → Bool
  | [] => true
  | (k, v) :: r =>
    (match k with | .str _ => true | .int _ => true | .bool _ => true | .none => true | _ => false)
      && wellKeyed v && catchKeys r
end

/-! `jsonSafe*` / `wellKeyed*` of a `cons` are, by definition, the conjunction over head and tail: the lemmas below restate a
hypothesis or goal in that form (`show`, type ascription) and do not go through equation lemmas, which are slow to derive
for these mutual definitions. -/

theorem jsonSafePairs_cons (p : DVal × DVal) (r : List (DVal × DVal)) :
    jsonSafePairs (p :: r) = (jsonSafe p.1 && jsonSafe p.2 && jsonSafePairs r) := rfl

theorem jsonSafePairs_append (a b : List (DVal × DVal)) :
    jsonSafePairs (a ++ b) = (jsonSafePairs a && jsonSafePairs b) := by
  induction a with
  | nil => rfl
  | cons x r ih => rw [List.cons_append, jsonSafePairs_cons, jsonSafePairs_cons, ih, ← Bool.and_assoc]

theorem fieldHere_safe (std : Std) (ts : Bool) (cfg : Option MetaCfg) (eff : MetaCfg) (args : DumpArgs) (fi : FieldInfo) (v : PyVal)
    (here : List (DVal × DVal)) (h : fieldHere std ts cfg eff args fi v = .ok here)
    (hV : fi.isCatchAll = false → ∀ d, dumpV std ts cfg v = .ok d → jsonSafe d = true)
    (hC : fi.isCatchAll = true → ∀ items, GenDump.catchAllItems std ts cfg v = .ok items → jsonSafePairs items = true) :
    jsonSafePairs here = true := by
  cases hca : fi.isCatchAll
  · rcases fieldHere_plain_ok hca h with ⟨_, rfl⟩ | ⟨_, k, _, d, hd, rfl⟩
    · rfl
    · rw [jsonSafePairs_cons, hV hca d hd]
      rfl
  · rw [fieldHere, hca, if_pos rfl, catchAllHere] at h
    split at h
    · cases h; rfl
    · obtain ⟨bydef, _, h⟩ := Except.bind_eq_ok.mp h
      split at h
      · cases h; rfl
      · exact hC hca here h

/-! One theorem per recursive function of the dumper's `mutual` block, by structural recursion along theirs; `dumpScalar`, the sixth
function of the block, calls none of the others (`scalar_json_safe`). -/

mutual
theorem dumpV_safe (std : Std) (cfg : Option MetaCfg) (ts : Bool) (v : PyVal) (d : DVal)
    (hw : wellKeyed v = true) (h : dumpV std ts cfg v = .ok d) : jsonSafe d = true := by
  cases v with
  | inst ci fields =>
    rw [dumpV_inst] at h
    obtain ⟨body, hb, rfl⟩ := Except.map_eq_ok.1 h
    have := dumpFields_safe std cfg _ _ {} ci fields body hw hb
    unfold finishInst
    split
    · exact (jsonSafePairs_append body _).trans (by rw [this]; rfl)
    · exact this
  | ntuple _ _ xs | seq _ xs | tuple xs =>
    simp only [dumpV_ntuple, dumpV_seq, dumpV_tuple] at h
    obtain ⟨ys, hy, rfl⟩ := Except.map_eq_ok.1 h
    exact dumpList_safe std cfg ts xs ys hw hy
  | map k kvs =>
    rw [dumpV_map] at h
    obtain ⟨ys, hy, rfl⟩ := Except.map_eq_ok.1 h
    exact dumpPairs_safe std cfg ts kvs ys hw hy
  | _ => exact scalar_json_safe std ts _ d rfl ((dumpV_of_scalar std ts cfg _ rfl).symm.trans h)
termination_by structural v

theorem dumpList_safe (std : Std) (cfg : Option MetaCfg) (ts : Bool) (xs : List PyVal) (ds : List DVal)
    (hw : wellKeyedList xs = true) (h : dumpList std ts cfg xs = .ok ds) : jsonSafeList ds = true := by
  cases xs with
  | nil => cases (dumpList_nil_ok std ts cfg).1 h; rfl
  | cons x xs =>
    obtain ⟨hx, hxs⟩ := Bool.and_eq_true_iff.1 (hw : (wellKeyed x && wellKeyedList xs) = true)
    obtain ⟨y, hy, ys, hys, rfl⟩ := (dumpList_cons_ok std ts cfg).1 h
    show (jsonSafe y && jsonSafeList ys) = true
    rw [dumpV_safe std cfg ts x y hx hy, dumpList_safe std cfg ts xs ys hxs hys]
    rfl
termination_by structural xs

theorem dumpPairs_safe (std : Std) (cfg : Option MetaCfg) (ts : Bool) (kvs : List (PyVal × PyVal)) (ds : List (DVal × DVal))
    (hw : wellKeyedPairs kvs = true) (h : dumpPairs std ts cfg kvs = .ok ds) : jsonSafePairs ds = true := by
  cases kvs with
  | nil => cases h; rfl
  | cons kv r =>
    obtain ⟨k, v⟩ := kv
    obtain ⟨hkv, hr⟩ := Bool.and_eq_true_iff.1 (hw : (wellKeyed k && wellKeyed v && wellKeyedPairs r) = true)
    obtain ⟨hk, hv⟩ := Bool.and_eq_true_iff.1 hkv
    obtain ⟨k', hk', v', hv', r', hr', rfl⟩ := (dumpPairs_cons_ok std ts cfg).1 h
    rw [jsonSafePairs_cons, dumpV_safe std cfg ts k k' hk hk', dumpV_safe std cfg ts v v' hv hv', dumpPairs_safe std cfg ts r r' hr hr']
    rfl
termination_by structural kvs

theorem dumpCatchAll_safe (std : Std) (cfg : Option MetaCfg) (ts : Bool) (kvs : List (PyVal × PyVal)) (ds : List (DVal × DVal))
    (hw : catchKeys kvs = true) (h : dumpCatchAll std ts cfg kvs = .ok ds) : jsonSafePairs ds = true := by
  cases kvs with
  | nil => cases h; rfl
  | cons kv r =>
    obtain ⟨k, v⟩ := kv
    obtain ⟨hkv, hr⟩ := Bool.and_eq_true_iff.1 hw
    obtain ⟨hk, hv⟩ := Bool.and_eq_true_iff.1 hkv
    rw [dumpCatchAll_cons] at h
    obtain ⟨v', hv', h⟩ := Except.bind_eq_ok.mp h
    obtain ⟨r', hr', h⟩ := Except.bind_eq_ok.mp h
    cases h
    rw [jsonSafePairs_cons, dumpV_safe std cfg ts v v' hv hv', dumpCatchAll_safe std cfg ts r r' hr hr', Bool.and_true, Bool.and_true]
    -- `catchKeys` admits exactly the forms of key that are written as JSON scalars
    split at hk <;> first | rfl | cases hk
termination_by structural kvs

theorem dumpFields_safe (std : Std) (cfg : Option MetaCfg) (ts : Bool) (eff : MetaCfg) (args : DumpArgs) (ci : ClassInfo)
    (fs : List (S × PyVal)) (ds : List (DVal × DVal)) (hw : wellKeyedFields ci fs = true)
    (h : dumpFields std ts cfg eff args ci fs = .ok ds) : jsonSafePairs ds = true := by
  cases fs with
  | nil => rw [dumpFields_nil] at h; cases h; rfl
  | cons nv rest =>
    obtain ⟨nm, v⟩ := nv
    obtain ⟨hv, hrest⟩ := Bool.and_eq_true_iff.1
      (hw : ((if (ci.fieldNamed nm).isCatchAll then catchVal v else wellKeyed v) && wellKeyedFields ci rest) = true)
    obtain ⟨here, hhere, more, hmore, rfl⟩ := dumpFields_cons_ok.mp h
    rw [jsonSafePairs_append, dumpFields_safe std cfg ts eff args ci rest more hrest hmore, Bool.and_true]
    refine fieldHere_safe std ts cfg eff args _ v here hhere ?_ ?_
    · intro hca d hd
      rw [hca] at hv
      exact dumpV_safe std cfg ts v d hv hd
    · intro hca items hi
      rw [hca] at hv
      cases v with
      | map k kvs => exact dumpCatchAll_safe std cfg ts kvs items hv hi
      | _ => cases hi; rfl
termination_by structural fs
end

end DW.Props.C03
