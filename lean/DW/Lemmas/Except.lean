/- When a `do` block in `Except` returns or raises: a `>>=`, `pure` or map that equals `.ok b` (`.error e`) is
turned into the existence of the intermediate results. -/
namespace DW

universe u v

@[simp] theorem Except.bind_eq_ok {ε : Type u} {α β : Type v} {x : Except ε α} {f : α → Except ε β} {b : β} :
    x >>= f = .ok b ↔ ∃ a, x = .ok a ∧ f a = .ok b := by
  cases x with
  | error e => exact ⟨fun h => (by cases h), fun ⟨_, h, _⟩ => (by cases h)⟩
  | ok a => exact ⟨fun h => ⟨a, rfl, h⟩, fun ⟨_, h, hf⟩ => by cases h; exact hf⟩

theorem Except.bind_eq_error {ε : Type u} {α β : Type v} {x : Except ε α} {f : α → Except ε β} {e : ε} :
    x >>= f = .error e ↔ x = .error e ∨ ∃ a, x = .ok a ∧ f a = .error e := by
  cases x with
  | error e' =>
    exact ⟨fun h => .inl (by cases h; rfl), fun h => h.elim (fun h => by cases h; rfl) fun ⟨_, h, _⟩ => (by cases h)⟩
  | ok a => exact ⟨fun h => .inr ⟨a, rfl, h⟩, fun h => h.elim (fun h => (by cases h)) fun ⟨_, h, hf⟩ => by cases h; exact hf⟩

@[simp] theorem Except.pure_eq_ok {ε : Type u} {α : Type v} {a b : α} : (pure a : Except ε α) = .ok b ↔ a = b :=
  ⟨fun h => Except.ok.inj h, fun h => h ▸ rfl⟩

@[simp] theorem Except.map_eq_ok {ε : Type u} {α β : Type v} {f : α → β} {x : Except ε α} {b : β} :
    x.map f = .ok b ↔ ∃ a, x = .ok a ∧ f a = b := by
  cases x with
  | error e => exact ⟨fun h => (by cases h), fun ⟨_, h, _⟩ => (by cases h)⟩
  | ok a => exact ⟨fun h => ⟨a, rfl, Except.ok.inj h⟩, fun ⟨_, h, hf⟩ => by cases h; exact hf ▸ rfl⟩

/-- `simp` writes `x >>= fun a => pure (f a)` as `f <$> x` -/
@[simp] theorem Except.fmap_eq_ok {ε : Type u} {α β : Type v} {f : α → β} {x : Except ε α} {b : β} :
    f <$> x = .ok b ↔ ∃ a, x = .ok a ∧ f a = b :=
  Except.map_eq_ok

end DW
