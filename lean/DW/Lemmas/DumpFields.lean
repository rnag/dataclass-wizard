/- The dump model, one step at a time: what `dumpV` writes for each form of value (one statement over all `SeqKind`s, one over
all `MapKind`s; any mode and travelling config, leaf values in ISO mode only), when the list functions of the dumper return, and the field loop
`dumpFields` one field at a time: what a field contributes (`fieldHere`) and the one equation every proof about the
loop uses (`dumpFields_cons`). -/
import DW.Lemmas.Dump
import DW.Lemmas.Except

namespace DW

def PyVal.isScalar : PyVal → Bool
  | .seq _ _ => false | .tuple _ => false | .map _ _ => false | .ntuple _ _ _ => false | .inst _ _ => false
  | _ => true

section
variable (std : Std) (ts : Bool) (cfg : Option MetaCfg)

theorem dumpV_of_scalar (v : PyVal) (h : v.isScalar = true) : dumpV std ts cfg v = dumpScalar std ts v := by
  -- the last equation of `dumpV`: `v` is none of the five container forms
  rw [dumpV] <;> (intros; subst_vars; cases h)

theorem dumpV_inst (ci : ClassInfo) (fields : List (S × PyVal)) :
    dumpV std ts cfg (.inst ci fields) =
      (dumpFields std ((effMeta ci.cmeta cfg).marshalTimestamp.getD false) cfg (effMeta ci.cmeta cfg) {} ci fields).map
        (finishInst (effMeta ci.cmeta cfg)) := by
  rw [dumpV]
  cases dumpFields std ((effMeta ci.cmeta cfg).marshalTimestamp.getD false) cfg (effMeta ci.cmeta cfg) {} ci fields <;> rfl

theorem RT.asdict_inst (ci : ClassInfo) (fields : List (S × PyVal)) :
    asdict std {} (.inst ci fields) = dumpV std false (rootConfig ci.cmeta) (.inst ci fields) := by
  rw [dumpV, RT.effMeta_root]
  rfl

theorem dumpV_ntuple (c : S) (ns : List S) (xs : List PyVal) :
    dumpV std ts cfg (.ntuple c ns xs) = (dumpList std ts cfg xs).map (DVal.ntuple c) := by
  rw [dumpV]
  cases dumpList std ts cfg xs <;> rfl

/-- every sequence kind has a registered hook, and both hooks return a list -/
theorem dumpV_seq (k : SeqKind) (xs : List PyVal) :
    dumpV std ts cfg (.seq k xs) = (dumpList std ts cfg xs).map DVal.list := by
  rw [dumpV]
  cases k <;> simp only [hookFor_list, hookFor_set, hookFor_frozenset, hookFor_deque] <;>
    cases dumpList std ts cfg xs <;> rfl

theorem dumpV_tuple (xs : List PyVal) : dumpV std ts cfg (.tuple xs) = (dumpList std ts cfg xs).map DVal.tuple := by
  rw [dumpV, hookFor_tuple]
  cases dumpList std ts cfg xs <;> rfl

/-- every mapping kind has a registered hook; only an `OrderedDict` keeps its order flag -/
theorem dumpV_map (k : MapKind) (kvs : List (PyVal × PyVal)) :
    dumpV std ts cfg (.map k kvs) = (dumpPairs std ts cfg kvs).map (DVal.dict (k == .ordereddict)) := by
  rw [dumpV]
  cases k <;> simp only [hookFor_dict, hookFor_defaultdict, hookFor_ordereddict] <;>
    cases dumpPairs std ts cfg kvs <;> rfl

theorem dumpV_int (i : Int) : dumpV std ts cfg (.int i) = .ok (.int i) := by
  rw [dumpV_of_scalar _ _ _ _ rfl, dumpScalar_int]
theorem dumpV_float (f : PyFloat) : dumpV std ts cfg (.float f) = .ok (.float f) := by
  rw [dumpV_of_scalar _ _ _ _ rfl, dumpScalar_float]
theorem dumpV_str (s : S) : dumpV std ts cfg (.str s) = .ok (.str s) := by
  rw [dumpV_of_scalar _ _ _ _ rfl, dumpScalar_str]
theorem dumpV_bool (b : Bool) : dumpV std ts cfg (.bool b) = .ok (.bool b) := by
  rw [dumpV_of_scalar _ _ _ _ rfl, dumpScalar_bool]
theorem dumpV_none : dumpV std ts cfg .none = .ok .null := by
  rw [dumpV_of_scalar _ _ _ _ rfl, dumpScalar_none]
theorem dumpV_bytes (m : Bool) (b : List Nat) : dumpV std ts cfg (.bytes m b) = .ok (.str (std.b64encode b)) := by
  rw [dumpV_of_scalar _ _ _ _ rfl, dumpScalar_bytes]
theorem dumpV_enum (name m : S) (v : Lit) : dumpV std ts cfg (.enum name m v) = .ok v.toD := by
  rw [dumpV_of_scalar _ _ _ _ rfl, dumpScalar_enum]
theorem dumpV_timedelta (us : Int) : dumpV std ts cfg (.timedelta us) = .ok (.str (tdStr us)) := by
  rw [dumpV_of_scalar _ _ _ _ rfl, dumpScalar_timedelta]
theorem dumpV_lit (l : Lit) : dumpV std ts cfg l.toPy = .ok l.toD := by
  cases l <;> simp only [Lit.toPy, Lit.toD, dumpV_none, dumpV_bool, dumpV_int, dumpV_float, dumpV_str]
theorem dumpV_leaf (k : LeafKind) (sub : Bool) (t : S) :
    dumpV std false cfg (.leaf k sub t) = .ok (.str (leafText k t)) := by
  rw [dumpV_of_scalar _ _ _ _ rfl, dumpScalar_leaf]

theorem dumpList_nil_ok {ds : List DVal} : dumpList std ts cfg [] = .ok ds ↔ [] = ds :=
  Except.pure_eq_ok

theorem dumpList_cons_ok {x : PyVal} {xs : List PyVal} {ds : List DVal} :
    dumpList std ts cfg (x :: xs) = .ok ds ↔
      ∃ y, dumpV std ts cfg x = .ok y ∧ ∃ ys, dumpList std ts cfg xs = .ok ys ∧ y :: ys = ds := by
  rw [dumpList.eq_def]
  simp only [Except.bind_eq_ok, Except.pure_eq_ok]

theorem dumpPairs_cons_ok {k v : PyVal} {r : List (PyVal × PyVal)} {ps : List (DVal × DVal)} :
    dumpPairs std ts cfg ((k, v) :: r) = .ok ps ↔
      ∃ k', dumpV std ts cfg k = .ok k' ∧ ∃ v', dumpV std ts cfg v = .ok v' ∧
        ∃ r', dumpPairs std ts cfg r = .ok r' ∧ (k', v') :: r' = ps := by
  rw [dumpPairs.eq_def]
  simp only [Except.bind_eq_ok, Except.pure_eq_ok]

theorem dumpList_length (xs : List PyVal) (ds : List DVal) (h : dumpList std ts cfg xs = .ok ds) : ds.length = xs.length := by
  induction xs generalizing ds with
  | nil => cases (dumpList_nil_ok std ts cfg).1 h; rfl
  | cons x xs ih =>
    obtain ⟨y, _, ys, hys, rfl⟩ := (dumpList_cons_ok std ts cfg).1 h
    rw [List.length_cons, List.length_cons, ih ys hys]

/-- one equation for every form of key (the equations Lean derives split on it) -/
theorem dumpCatchAll_cons (k v : PyVal) (r : List (PyVal × PyVal)) :
    dumpCatchAll std ts cfg ((k, v) :: r) = (do
      let v' ← dumpV std ts cfg v
      let r' ← dumpCatchAll std ts cfg r
      pure ((match k with | .str s => DVal.str s | .int i => DVal.int i | .bool b => DVal.bool b | .none => DVal.null
                          | _ => DVal.bad "key".toList, v') :: r')) := by
  rw [dumpCatchAll.eq_def]
  rfl

end

/-- the description the field loop uses for the attribute called `n` -/
abbrev ClassInfo.fieldNamed (ci : ClassInfo) (n : S) : FieldInfo :=
  (ci.fields.find? (fun f => f.name == n)).getD { name := n }

/-- the items of the mapping a catch-all field holds, dumped -/
def GenDump.catchAllItems (std : Std) (ts : Bool) (cfg : Option MetaCfg) (v : PyVal) : Except DErr (List (DVal × DVal)) :=
  match v with
  | .map _ kvs => dumpCatchAll std ts cfg kvs
  | _ => pure []

def GenDump.isDefaultVal (fi : FieldInfo) (v : PyVal) : Bool :=
  match fi.dflt with
  | some d => pyEqDflt v d
  | none => false

open GenDump (catchAllItems isDefaultVal)

/-- the two arms of `fieldHere`: a catch-all field contributes the items of its mapping (nothing when excluded or at its default), any
other field its one pair unless `fieldSkipped` -/
def catchAllHere (std : Std) (ts : Bool) (cfg : Option MetaCfg) (eff : MetaCfg) (args : DumpArgs) (fi : FieldInfo) (v : PyVal) :
    Except DErr (List (DVal × DVal)) :=
  if excluded args fi then pure []
  else (if skipDefaultsOn eff args then defaultTest eff fi v else pure false) >>= fun bydef =>
    if bydef || isDefaultVal fi v then pure [] else catchAllItems std ts cfg v

def plainHere (std : Std) (ts : Bool) (cfg : Option MetaCfg) (eff : MetaCfg) (args : DumpArgs) (fi : FieldInfo) (v : PyVal) :
    Except DErr (List (DVal × DVal)) := do
  let skipped ← fieldSkipped eff args fi v
  if skipped then pure []
  else do
    let k ← dumpKey eff fi
    let d ← dumpV std ts cfg v
    pure [(DVal.str k, d)]

/-- what the field described by `fi` and holding `v` contributes to the dumped body -/
def fieldHere (std : Std) (ts : Bool) (cfg : Option MetaCfg) (eff : MetaCfg) (args : DumpArgs) (fi : FieldInfo) (v : PyVal) :
    Except DErr (List (DVal × DVal)) :=
  if fi.isCatchAll then catchAllHere std ts cfg eff args fi v else plainHere std ts cfg eff args fi v

theorem ite_bind' {m : Type → Type} [Bind m] {α β : Type} (c : Prop) [Decidable c] (a b : m α) (f : α → m β) :
    (if c then a else b) >>= f = if c then a >>= f else b >>= f := by
  split <;> rfl

theorem catchAllItems_bind {β : Type} (std : Std) (ts : Bool) (cfg : Option MetaCfg) (v : PyVal)
    (K : List (DVal × DVal) → Except DErr β) :
    catchAllItems std ts cfg v >>= K = match v with
      | .map _ kvs => dumpCatchAll std ts cfg kvs >>= K
      | _ => K [] := by
  unfold catchAllItems
  split <;> rfl

theorem dumpFields_nil (std : Std) (ts : Bool) (cfg : Option MetaCfg) (eff : MetaCfg) (args : DumpArgs) (ci : ClassInfo) :
    dumpFields std ts cfg eff args ci [] = .ok [] :=
  rfl

theorem dumpFields_cons (std : Std) (ts : Bool) (cfg : Option MetaCfg) (eff : MetaCfg) (args : DumpArgs) (ci : ClassInfo)
    (n : S) (v : PyVal) (rest : List (S × PyVal)) :
    dumpFields std ts cfg eff args ci ((n, v) :: rest) = (do
      let here ← fieldHere std ts cfg eff args (ci.fieldNamed n) v
      let more ← dumpFields std ts cfg eff args ci rest
      pure (here ++ more)) := by
  rw [dumpFields.eq_def]
  -- on the right, move `>>=` into the branches: the two sides then agree up to where `v` is inspected
  -- (`isDefaultVal` / `fieldNamed` stay folded until then, or `simp` rewrites inside them on one side only)
  simp only [fieldHere, catchAllHere, plainHere, ite_bind', bind_assoc, pure_bind, catchAllItems_bind]
  rfl

theorem dumpFields_cons_ok {std : Std} {ts : Bool} {cfg : Option MetaCfg} {eff : MetaCfg} {args : DumpArgs} {ci : ClassInfo}
    {n : S} {v : PyVal} {rest : List (S × PyVal)} {out : List (DVal × DVal)} :
    dumpFields std ts cfg eff args ci ((n, v) :: rest) = .ok out ↔
      ∃ here, fieldHere std ts cfg eff args (ci.fieldNamed n) v = .ok here ∧
        ∃ more, dumpFields std ts cfg eff args ci rest = .ok more ∧ out = here ++ more := by
  simp only [dumpFields_cons, Except.bind_eq_ok, Except.pure_eq_ok, eq_comm (a := out)]

/-- a field that is not the catch-all and returns: it is skipped and contributes nothing, or it contributes its one pair -/
theorem fieldHere_plain_ok {std : Std} {ts : Bool} {cfg : Option MetaCfg} {eff : MetaCfg} {args : DumpArgs} {fi : FieldInfo}
    {v : PyVal} {here : List (DVal × DVal)} (hca : fi.isCatchAll = false) (h : fieldHere std ts cfg eff args fi v = .ok here) :
    fieldSkipped eff args fi v = .ok true ∧ here = [] ∨
    fieldSkipped eff args fi v = .ok false ∧
      ∃ k, dumpKey eff fi = .ok k ∧ ∃ d, dumpV std ts cfg v = .ok d ∧ here = [(DVal.str k, d)] := by
  rw [fieldHere, hca, if_neg Bool.false_ne_true, plainHere] at h
  obtain ⟨skipped, hsk, h⟩ := Except.bind_eq_ok.mp h
  cases skipped
  · obtain ⟨k, hk, h⟩ := Except.bind_eq_ok.mp h
    obtain ⟨d, hd, h⟩ := Except.bind_eq_ok.mp h
    cases h
    exact .inr ⟨hsk, k, hk, d, hd, rfl⟩
  · cases h
    exact .inl ⟨hsk, rfl⟩

namespace RT

/-- the effective Meta has no skip rule and ISO date/times -/
structure NoSkip (eff : MetaCfg) : Prop where
  sd : eff.skipDefaults.getD false = false
  sdi : eff.skipDefaultsIf = none
  si : eff.skipIf = none
  ts : eff.marshalTimestamp.getD false = false

theorem fieldSkipped_plain (eff : MetaCfg) (hn : NoSkip eff) (f : FieldInfo) (v : PyVal) (h1 : f.dumpSkip = false)
    (h2 : f.skipIf = none) : fieldSkipped eff {} f v = .ok false := by
  simp [fieldSkipped, excluded, skipDefaultsOn, ownCond, hn.sd, hn.sdi, hn.si, h1, h2, bind, Except.bind, pure, Except.pure]

theorem find_unique {α : Type} (key : α → S) (l : List α) (a : α) (hnd : (l.map key).Nodup) (h : a ∈ l) :
    l.find? (fun p => key p == key a) = some a := by
  induction l with
  | nil => nomatch h
  | cons x r ih =>
    obtain ⟨hx, hr⟩ := List.nodup_cons.1 hnd
    rw [List.find?_cons]
    rcases List.mem_cons.1 h with rfl | ha
    · rw [beq_self_eq_true]
    · -- `x` comes first and `a` later: their keys differ
      rw [beq_false_of_ne fun (e : key x = key a) => hx (e ▸ List.mem_map_of_mem ha)]
      exact ih hr ha

/-- when nothing is skipped and there is no catch-all, the loop writes one pair per field: the dump keys zipped with `dumpList` of the values -/
theorem dumpFields_plain (std : Std) (cfg : Option MetaCfg) (eff : MetaCfg) (hn : NoSkip eff) (ci : ClassInfo)
    (hnd : (ci.fields.map (·.name)).Nodup)
    (hpl : ∀ f ∈ ci.fields, f.isCatchAll = false ∧ f.dumpSkip = false ∧ f.skipIf = none)
    (kf : FieldInfo → S) (hk : ∀ f ∈ ci.fields, dumpKey eff f = .ok (kf f))
    (fs : List FieldInfo) (vals : List PyVal) (body : List (DVal × DVal)) (hm : ∀ f ∈ fs, f ∈ ci.fields)
    (hl : vals.length = fs.length) (h : dumpFields std false cfg eff {} ci ((fs.map (·.name)).zip vals) = .ok body) :
    ∃ ds, dumpList std false cfg vals = .ok ds ∧ body = (fs.map kf).zipWith (fun k d => (DVal.str k, d)) ds := by
  induction fs generalizing vals body with
  | nil =>
    rw [List.map_nil, List.zip_nil_left, dumpFields_nil] at h; cases h
    cases List.length_eq_zero_iff.1 hl
    exact ⟨[], rfl, rfl⟩
  | cons f fs ih =>
    cases vals with
    | nil => cases hl
    | cons v vals =>
      obtain ⟨hf, hm⟩ := List.forall_mem_cons.1 hm
      have hfn : ci.fieldNamed f.name = f := by
        rw [ClassInfo.fieldNamed, find_unique (fun g : FieldInfo => g.name) ci.fields f hnd hf]; rfl
      have hpf := hpl f hf
      obtain ⟨here, hhere, more, hmore, rfl⟩ := dumpFields_cons_ok.1 h
      rw [hfn] at hhere
      rcases fieldHere_plain_ok hpf.1 hhere with ⟨hsk, _⟩ | ⟨_, k, hk', d, hd, rfl⟩
      · cases (fieldSkipped_plain eff hn f v hpf.2.1 hpf.2.2).symm.trans hsk
      cases (hk f hf).symm.trans hk'
      obtain ⟨ds, hds, rfl⟩ := ih vals more hm (Nat.succ.inj hl) hmore
      exact ⟨d :: ds, (dumpList_cons_ok std false cfg).2 ⟨d, hd, ds, hds, rfl⟩, rfl⟩

end RT

end DW
