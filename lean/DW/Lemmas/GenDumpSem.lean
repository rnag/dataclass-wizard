/-
The body generated for a class computes the reference selection of C11: when no skip comparison raises on the instance at hand,
the reference run of `DW/Lemmas/GenDumpTotal.lean` returns the reference emissions field by field; and the call environment the
generator sets up (`envOf`) meets the hypotheses (`World`) of these theorems.
-/
import DW.Lemmas.GenDumpTotal

namespace DW.GenDump
open DW DW.Names

/-- `fieldEmitE` of the reference run (`Lemmas/GenDumpTotal.lean`) when the field's own condition returns `ocv`: what field `fi`
contributes, given its bookkeeping value `sk2` (`fieldEmitE_of_ok`) -/
def refFieldEmit (sk2 ocv : Bool) (fi : FieldInfo) (k : S) (v : PyVal) : List Emit :=
  if fi.isCatchAll then
    if isDefaultVal fi v || sk2 then [] else [.catchAll fi.name]
  else if fi.dumpSkip then []
  else if sk2 || ocv then [] else [.entry k fi.name]

/-- `refFieldEmit` at the bookkeeping value "excluded, or skipped as a default", the tests returning `dtv` / `ocv`; with the
reference values of C11 (`defaultTestRef`, `ownCondRef`) its `flatMap` is `C11.refSelection` (shown in `C11_generated_code_selects`) -/
def refEmitOf (eff : MetaCfg) (args : DumpArgs) (dtv ocv : FieldInfo → Bool) (vals : S → PyVal) (q : FieldInfo × S) : List Emit :=
  refFieldEmit (excluded args q.1 || (skipDefaultsOn eff args && dtv q.1)) (ocv q.1) q.1 q.2 (vals q.1.name)

theorem phase2_of_ok (eff : MetaCfg) (args : DumpArgs) (vals : S → PyVal) (dtv : FieldInfo → Bool)
    (fks : List (FieldInfo × S)) (Hd : ∀ q ∈ fks, defaultTest eff q.1 (vals q.1.name) = .ok (dtv q.1)) :
    phase2 eff args vals fks = .ok (fks.map fun q => excluded args q.1 || (skipDefaultsOn eff args && dtv q.1)) := by
  unfold phase2
  cases skipDefaultsOn eff args
  · simp
  · simp only [if_true, Bool.true_and]
    induction fks with
    | nil => rfl
    | cons q r ih =>
      have hq : sk2On eff args q.1 (vals q.1.name) = .ok (excluded args q.1 || dtv q.1) := by
        unfold sk2On
        rw [Hd q (by simp)]
        cases excluded args q.1 <;> rfl
      rw [phase2On, hq, ih fun q' hq' => Hd q' (by simp [hq'])]
      rfl

theorem fieldEmitE_of_ok (eff : MetaCfg) (sk2 oc : Bool) (fi : FieldInfo) (k : S) (v : PyVal) (ho : ownCond eff fi v = .ok oc) :
    fieldEmitE eff sk2 fi k v = .ok (refFieldEmit sk2 oc fi k v) := by
  unfold fieldEmitE refFieldEmit
  rw [ho]
  cases fi.isCatchAll <;> cases fi.dumpSkip <;> cases sk2 <;> rfl

theorem phase3_of_ok (eff : MetaCfg) (vals : S → PyVal) (ocv : FieldInfo → Bool) (sk : FieldInfo × S → Bool)
    (fks : List (FieldInfo × S)) (Ho : ∀ q ∈ fks, ownCond eff q.1 (vals q.1.name) = .ok (ocv q.1)) :
    phase3 eff vals fks (fks.map sk) = .ok (fks.flatMap fun q => refFieldEmit (sk q) (ocv q.1) q.1 q.2 (vals q.1.name)) := by
  induction fks with
  | nil => rfl
  | cons q r ih =>
    rw [List.map_cons, phase3, List.head?_cons, Option.getD_some, List.tail_cons,
      fieldEmitE_of_ok eff _ (ocv q.1) q.1 q.2 _ (Ho q (by simp)), ih fun q' hq => Ho q' (by simp [hq])]
    rfl

theorem refRun_of_ok (eff : MetaCfg) (args : DumpArgs) (vals : S → PyVal) (fks : List (FieldInfo × S)) (dtv ocv : FieldInfo → Bool)
    (Hd : ∀ q ∈ fks, defaultTest eff q.1 (vals q.1.name) = .ok (dtv q.1))
    (Ho : ∀ q ∈ fks, ownCond eff q.1 (vals q.1.name) = .ok (ocv q.1)) :
    refRun eff args vals fks =
      .ok (fks.flatMap (refEmitOf eff args dtv ocv vals) ++ tagEmits (ginOf eff fks)) := by
  unfold refRun
  rw [phase2_of_ok eff args vals dtv fks Hd]
  show (phase3 eff vals fks (fks.map fun q => excluded args q.1 || (skipDefaultsOn eff args && dtv q.1)) >>= _) = _
  rw [phase3_of_ok eff vals ocv _ fks Ho]
  rfl

/-- **What the generated body does** when no comparison raises on the instance at hand: exactly the reference emissions, in field
order, followed by the tag entry. -/
theorem run_genBody_ok (p : Char → Bool) (ρ : Env) (eff : MetaCfg) (args : DumpArgs) (fks : List (FieldInfo × S))
    (vals : S → PyVal) (W : World p eff args fks vals ρ) (dtv ocv : FieldInfo → Bool)
    (Hd : ∀ q ∈ fks, defaultTest eff q.1 (vals q.1.name) = .ok (dtv q.1))
    (Ho : ∀ q ∈ fks, ownCond eff q.1 (vals q.1.name) = .ok (ocv q.1)) :
    run ρ (genBody p (ginOf eff fks)) =
      .ok (fks.flatMap (refEmitOf eff args dtv ocv vals) ++ tagEmits (ginOf eff fks)) := by
  rw [run_genBody_total p ρ eff args fks vals W, refRun_of_ok eff args vals fks dtv ocv Hd Ho]

/-- closure entries for the fields from index `i` on: a superset of what the generator's `_locals[...] = …` assignments store
(`fieldLocals` binds `_skip_if_<i>` only when the value is not inlined, and `_default_<i>` under `skip_defaults_if` only for the
catch-all field); the body never reads the other names, so the surplus is harmless -/
def closureList : Nat → List (FieldInfo × S) → List (S × CV)
  | _, [] => []
  | i, (fi, _) :: r =>
    (match fi.dflt with | some d => [(defaultName i, CV.dflt d)] | none => []) ++
    (match fi.skipIf with | some c => [(skipIfName i, CV.lit c.val)] | none => []) ++ closureList (i + 1) r

/-- likewise a superset for the Meta-level conditions (`condLocals` binds a value only when it is not inlined) -/
def closureMeta (eff : MetaCfg) : List (S × CV) :=
  (match eff.skipIf with | some c => [(skipValue, CV.lit c.val)] | none => []) ++
  (match eff.skipDefaultsIf with | some c => [(skipDefaultsValue, CV.lit c.val)] | none => [])

/-- the environment of the call `asdict(o, exclude=…, skip_defaults=…)` on an instance whose attribute `n` holds `vals n` -/
def envOf (eff : MetaCfg) (args : DumpArgs) (fks : List (FieldInfo × S)) (vals : S → PyVal) : Env :=
  { field := fun n => some (vals n), exclude := args.exclude, skipDefaults := skipDefaultsOn eff args,
    closure := fun n => (closureMeta eff ++ closureList 0 fks).lookup n }

theorem lookup_single_ne {α : Type} (n k : S) (v : α) (h : n ≠ k) : ([(k, v)] : List (S × α)).lookup n = none := by
  simp [List.lookup, beq_false_of_ne h]

theorem lookup_single_eq {α : Type} (k : S) (v : α) : ([(k, v)] : List (S × α)).lookup k = some v :=
  List.lookup_cons_self

/-- the entries field `i` adds to the closure -/
def fieldEntries (i : Nat) (fi : FieldInfo) : List (S × CV) :=
  (match fi.dflt with | some d => [(defaultName i, CV.dflt d)] | none => []) ++
  (match fi.skipIf with | some c => [(skipIfName i, CV.lit c.val)] | none => [])

theorem closureList_cons (i : Nat) (fi : FieldInfo) (k : S) (r : List (FieldInfo × S)) :
    closureList i ((fi, k) :: r) = fieldEntries i fi ++ closureList (i + 1) r := rfl

theorem fieldEntries_lookup_none (i : Nat) (fi : FieldInfo) (n : S) (h : n ≠ defaultName i ∧ n ≠ skipIfName i) :
    (fieldEntries i fi).lookup n = none := by
  unfold fieldEntries
  rw [List.lookup_append]
  cases fi.dflt <;> cases fi.skipIf <;> simp [lookup_single_ne, h.1, h.2]

theorem closureList_lookup_lt (n : S) : ∀ (fs : List (FieldInfo × S)) (i : Nat),
    (∀ j, i ≤ j → n ≠ defaultName j ∧ n ≠ skipIfName j) → (closureList i fs).lookup n = none
  | [], _, _ => rfl
  | (fi, _) :: r, i, h => by
    rw [closureList_cons, List.lookup_append, fieldEntries_lookup_none i fi n (h i (Nat.le_refl i)),
      closureList_lookup_lt n r (i + 1) (fun j hj => h j (by omega))]
    rfl

theorem closureList_lookup (n : S) (fs : List (FieldInfo × S)) (i0 i : Nat) (fi : FieldInfo) (k : S)
    (h : fs[i]? = some (fi, k)) (hn : ∀ j, j ≠ i0 + i → n ≠ defaultName j ∧ n ≠ skipIfName j) :
    (closureList i0 fs).lookup n = (fieldEntries (i0 + i) fi).lookup n := by
  induction fs generalizing i0 i with
  | nil => simp at h
  | cons q r ih =>
    obtain ⟨f0, k0⟩ := q
    rw [closureList_cons, List.lookup_append]
    cases i with
    | zero =>
      cases h
      rw [closureList_lookup_lt n r (i0 + 1) (fun j hj => hn j (by omega)), Option.or_none, Nat.add_zero]
    | succ i =>
      rw [fieldEntries_lookup_none i0 f0 n (hn i0 (by omega)), Option.none_or,
        ih (i0 + 1) i (by simpa using h) (fun j hj => hn j (by omega)), show i0 + 1 + i = i0 + (i + 1) by omega]

theorem closureMeta_none (eff : MetaCfg) (n : S) (h : n ≠ skipValue ∧ n ≠ skipDefaultsValue) :
    (closureMeta eff).lookup n = none := by
  unfold closureMeta
  rw [List.lookup_append]
  cases eff.skipIf <;> cases eff.skipDefaultsIf <;> simp [lookup_single_ne, h.1, h.2]

theorem envOf_closure_field (eff : MetaCfg) (args : DumpArgs) (fks : List (FieldInfo × S)) (vals : S → PyVal) (n : S) (i : Nat)
    (fi : FieldInfo) (k : S) (hi : fks[i]? = some (fi, k)) (hm : n ≠ skipValue ∧ n ≠ skipDefaultsValue)
    (hn : ∀ j, j ≠ i → n ≠ defaultName j ∧ n ≠ skipIfName j) :
    (envOf eff args fks vals).closure n = (fieldEntries i fi).lookup n := by
  show (closureMeta eff ++ closureList 0 fks).lookup n = _
  rw [List.lookup_append, closureMeta_none eff n hm, Option.none_or, closureList_lookup n fks 0 i fi k hi (by simpa using hn),
    Nat.zero_add]

/-- **the hypotheses of the semantic theorems are met by `envOf`**, whose closure holds at least what the generator itself binds
(`closureList`) -/
theorem world_envOf (p : Char → Bool) (eff : MetaCfg) (args : DumpArgs) (fks : List (FieldInfo × S)) (vals : S → PyVal) :
    World p eff args fks vals (envOf eff args fks vals) where
  field := fun _ => rfl
  exclude := rfl
  skipDefaults := rfl
  dflt := by
    intro i fi k d hi hd
    rw [envOf_closure_field eff args fks vals _ i fi k hi (defaultName_ne_meta i)
      (fun j hj => ⟨fun e => hj (defaultName_injective _ _ e).symm, defaultName_ne_skipIfName i j⟩)]
    simp [fieldEntries, hd]
  skipIf := by
    intro i fi k c hi hc _
    rw [envOf_closure_field eff args fks vals _ i fi k hi (skipIfName_ne_meta i)
      (fun j hj => ⟨fun e => defaultName_ne_skipIfName j i e.symm, fun e => hj (skipIfName_injective _ _ e).symm⟩)]
    have hne : skipIfName i ≠ defaultName i := fun e => defaultName_ne_skipIfName i i e.symm
    unfold fieldEntries
    rw [List.lookup_append, hc]
    cases fi.dflt <;> simp [lookup_single_ne, hne]
  skipValue := by
    intro c hc _
    simp only [envOf, closureMeta, hc]
    exact List.lookup_cons_self
  skipDefaultsValue := by
    intro c hc _
    have hne : skipDefaultsValue ≠ skipValue := by rw [skipValue_eq, skipDefaultsValue_eq]; simp
    simp only [envOf, closureMeta, hc, List.lookup_append]
    cases eff.skipIf <;> simp [lookup_single_ne, hne]

end DW.GenDump
