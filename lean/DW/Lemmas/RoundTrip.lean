/- The structural dump/load round trip of the default engine: the class conditions (`ClsOK`), the conformance relation
`Conf` of a value to a type and the induction behind `C01_roundtrip_struct`: one lemma per kind of type, each reading back
what `DW.Lemmas.DumpJson` says the dump wrote. -/
import DW.Model.Load
import DW.Model.StdLaws
import DW.Lemmas.DumpJson
import DW.Lemmas.Strings
import DW.Lemmas.Tagged
import DW.Lemmas.LoadWith
import DW.Lemmas.Build
namespace DW.RT
open DW DW.Str DW.Tagged
open DW.Props.C05 (tyOf fieldWith tdWith loadField_eq loadTd_eq)

/-- the default effective Meta (no Meta anywhere) -/
abbrev eff0 : MetaCfg := {}

/-- what a *tagged* class (tag `t`) needs for its tag entry to be harmless on the way back: the tag the Union dispatch
knows the class by is the one its dumper writes; the tag key the dumper uses is the one the dispatch reads (that of the
travelling config); and the tag key is no field name, alias or dump key of the class -/
structure TagFacts (cfg : Option MetaCfg) (ci : ClassInfo) (t : S) : Prop where
  member : memberTag cfg ci = some t
  keyAgree : tagKeyOf (effMeta ci.cmeta cfg) = (cfg.bind (·.tagKey)).getD Generated.tagKey.toList
  notField : tagKeyOf (effMeta ci.cmeta cfg) ∉ initFieldNames ci
  notAlias : (aliasTable ci).reverse.find? (fun p => p.1 == tagKeyOf (effMeta ci.cmeta cfg)) = none
  notDumpKey : ∀ f ∈ ci.fields, dumpKey (effMeta ci.cmeta cfg) f ≠ .ok (tagKeyOf (effMeta ci.cmeta cfg))

/-- a dataclass — with or without a Meta of its own, below any travelling config `cfg` — whose effective Meta
(`effMeta ci.cmeta cfg`: key transforms, recursive root settings …) has no skip rule / TIMESTAMP mode and carries the tag
`tg` (none = untagged), without catch-all or init=False fields, and whose dump keys (first alias when `all=True`, else the
effective dump transform of the name) lead the loader (effective load transform, aliases) back to their fields -/
structure ClsOK (cfg : Option MetaCfg) (ci : ClassInfo) (ftys : List (S × Ty)) (tg : Option S) : Prop where
  noSkip : NoSkip (effMeta ci.cmeta cfg)
  tag : (effMeta ci.cmeta cfg).tag = tg
  names : ci.fields.map (·.name) = ftys.map (·.1)
  nodup : (ci.fields.map (·.name)).Nodup
  plain : ∀ f ∈ ci.fields, f.init = true ∧ f.isCatchAll = false ∧ f.dumpSkip = false ∧ f.skipIf = none
  keys : ∀ f ∈ ci.fields, ∃ k, dumpKey (effMeta ci.cmeta cfg) f = .ok k ∧
            resolveKey (effMeta ci.cmeta cfg) ci k = .ok (.field f.name)
  tagFacts : ∀ t, tg = some t → TagFacts cfg ci t

/-- an untagged class of the fragment -/
abbrev PlainCls (cfg : Option MetaCfg) (ci : ClassInfo) (ftys : List (S × Ty)) : Prop := ClsOK cfg ci ftys none

/-- `NoneType` as a Union argument -/
def isNoneTy : Ty → Bool
  | .none => true
  | _ => false

/-- the other members of a Union of tagged dataclasses: dataclasses answering to other tags, or `None` -/
def OtherMember (cfg : Option MetaCfg) (tg : S) (t : Ty) : Prop :=
  (isCls t = true ∨ t = .none) ∧ tagOf cfg t ≠ some tg

/-- types whose dump is never JSON null -/
def nonNullTy : Ty → Bool
  | .int => true | .str => true | .bool => true | .float => true | .timedelta => true
  | .leaf _ => true
  | .seq .list _ => true
  | .seq .deque _ => true
  | .vtuple _ => true
  | .tuple (_ :: _) => true
  | .map .dict .str _ => true
  | .seq .set _ => true
  | .seq .frozenset _ => true
  | .map .defaultdict .str _ => true
  | .map .ordereddict .str _ => true
  | .ntuple _ _ => true
  | .typeddict _ _ => true
  | .cls _ _ => true
  | _ => false

/-- the entries of a TypedDict value: one optional value per declared key, in declaration order (`none` = key absent) -/
def tdPresent : List (S × Ty × Bool) → List (Option PyVal) → List (S × PyVal)
  | f :: fs, some v :: vs => (f.1, v) :: tdPresent fs vs
  | _ :: fs, none :: vs => tdPresent fs vs
  | _, _ => []

/-- value `v` conforms to type `t`, for the fragment of `C01_roundtrip_struct` -/
inductive Conf (std : Std) (cfg : Option MetaCfg) : Ty → PyVal → Prop
  | int (i : Int) : Conf std cfg .int (.int i)
  | float (f : PyFloat) : Conf std cfg .float (.float f)
  | leaf (k : LeafKind) (t : S) : std.validTok k t = true → Conf std cfg (.leaf k) (.leaf k false t)
  | timedelta (us : Int) : 0 ≤ us → Conf std cfg .timedelta (.timedelta us)
  | str (s : S) : Conf std cfg .str (.str s)
  | bool (b : Bool) : Conf std cfg .bool (.bool b)
  | optNone (t : Ty) : Conf std cfg (.optional t) .none
  | optSome (t : Ty) (v : PyVal) : nonNullTy t = true → Conf std cfg t v → Conf std cfg (.optional t) v
  | list (t : Ty) (xs : List PyVal) : (∀ x ∈ xs, Conf std cfg t x) → Conf std cfg (.seq .list t) (.seq .list xs)
  | vtuple (t : Ty) (xs : List PyVal) : (∀ x ∈ xs, Conf std cfg t x) → Conf std cfg (.vtuple t) (.tuple xs)
  | deque (t : Ty) (xs : List PyVal) : (∀ x ∈ xs, Conf std cfg t x) → Conf std cfg (.seq .deque t) (.seq .deque xs)
  | tuple (ts : List Ty) (xs : List PyVal) : ts ≠ [] → xs.length = ts.length → (∀ p ∈ ts.zip xs, Conf std cfg p.1 p.2) →
      Conf std cfg (.tuple ts) (.tuple xs)
  | enum (name : S) (members : List (S × Lit)) (m : S) (v : Lit) : (m, v) ∈ members → jEqLit v.toJ v = true →
      (∀ m' ∈ members, jEqLit v.toJ m'.2 = true → m' = (m, v)) → Conf std cfg (.enum name members) (.enum name m v)
  | dict (t : Ty) (kvs : List (S × PyVal)) : (kvs.map (·.1)).Nodup → (∀ p ∈ kvs, Conf std cfg t p.2) →
      Conf std cfg (.map .dict .str t) (.map .dict (kvs.map (fun p => (.str p.1, p.2))))
  | inst (ci : ClassInfo) (ftys : List (S × Ty)) (vals : List PyVal) (tg : Option S) : ClsOK cfg ci ftys tg →
      vals.length = ftys.length → (∀ p ∈ ftys.zip vals, Conf std cfg p.1.2 p.2) →
      Conf std cfg (.cls ci ftys) (.inst ci ((ftys.map (·.1)).zip vals))
  | unionTagged (pre post : List Ty) (ci : ClassInfo) (ftys : List (S × Ty)) (vals : List PyVal) (tg : S) :
      ClsOK cfg ci ftys (some tg) → vals.length = ftys.length → (∀ p ∈ ftys.zip vals, Conf std cfg p.1.2 p.2) →
      (∀ t ∈ pre, OtherMember cfg tg t) → (∀ t ∈ post, OtherMember cfg tg t) →
      Conf std cfg (.union (pre ++ .cls ci ftys :: post)) (.inst ci ((ftys.map (·.1)).zip vals))
  | unionNone (ts : List Ty) : ts.any isNoneTy = true → Conf std cfg (.union ts) .none
  | set (t : Ty) (xs : List PyVal) : xs.all PyVal.hashable = true → dedupKeep xs = xs → (∀ x ∈ xs, Conf std cfg t x) →
      Conf std cfg (.seq .set t) (.seq .set xs)
  | frozenset (t : Ty) (xs : List PyVal) : xs.all PyVal.hashable = true → dedupKeep xs = xs → (∀ x ∈ xs, Conf std cfg t x) →
      Conf std cfg (.seq .frozenset t) (.seq .frozenset xs)
  | defaultdict (t : Ty) (kvs : List (S × PyVal)) : (kvs.map (·.1)).Nodup → (∀ p ∈ kvs, Conf std cfg t p.2) →
      Conf std cfg (.map .defaultdict .str t) (.map .defaultdict (kvs.map (fun p => (.str p.1, p.2))))
  | ordereddict (t : Ty) (kvs : List (S × PyVal)) : (kvs.map (·.1)).Nodup → (∀ p ∈ kvs, Conf std cfg t p.2) →
      Conf std cfg (.map .ordereddict .str t) (.map .ordereddict (kvs.map (fun p => (.str p.1, p.2))))
  | literal (vs : List Lit) (l : Lit) : vs.find? (fun l' => jEqLit l.toJ l') = some l →
      Conf std cfg (.literal vs) l.toPy
  | ntuple (name : S) (fields : List (S × Ty × Option Dflt)) (xs : List PyVal) : xs.length = fields.length →
      (∀ p ∈ (fields.map (·.2.1)).zip xs, Conf std cfg p.1 p.2) →
      Conf std cfg (.ntuple name fields) (.ntuple name (fields.map (·.1)) xs)
  | typeddict (name : S) (fields : List (S × Ty × Bool)) (vals : List (Option PyVal)) :
      (fields.map (·.1)).Nodup → vals.length = fields.length →
      (∀ p ∈ fields.zip vals, p.2 = none → p.1.2.2 = false) →
      (∀ p ∈ fields.zip vals, ∀ v, p.2 = some v → Conf std cfg p.1.2.1 v) →
      Conf std cfg (.typeddict name fields) (.map .dict ((tdPresent fields vals).map (fun p => (.str p.1, p.2))))

/-- the round-trip statement for one value; by unfolding it is `Undoes std false cfg (loadD std cfg t) v`, and the lemmas of
`DW.Lemmas.DumpJson` are applied to it as such -/
def RT (std : Std) (cfg : Option MetaCfg) (t : Ty) (v : PyVal) : Prop :=
  ∀ d, dumpV std false cfg v = .ok d → loadD std cfg t (toJ d) = .ok v

section containers
variable (std : Std) (cfg : Option MetaCfg)

theorem rt_int (i : Int) : RT std cfg .int (.int i) := by
  intro d h; rw [dumpV_int] at h; cases h; rfl
theorem rt_str (s : S) : RT std cfg .str (.str s) := by
  intro d h; rw [dumpV_str] at h; cases h; rfl
theorem rt_bool (b : Bool) : RT std cfg .bool (.bool b) := by
  intro d h; rw [dumpV_bool] at h; cases h; rfl
theorem rt_float (f : PyFloat) : RT std cfg .float (.float f) := by
  intro d h; rw [dumpV_float] at h; cases h; rfl
theorem rt_optNone (t : Ty) : RT std cfg (.optional t) .none := by
  intro d h; rw [dumpV_none] at h; cases h; rfl

theorem loadD_optional_nonnull (t : Ty) (o : JVal) (h : o ≠ .null) :
    loadD std cfg (.optional t) o = loadD std cfg t o := by
  cases o with
  | null => exact absurd rfl h
  | _ => rfl

/-- in every case either the value is visibly of a form whose dump is not null, or the type is visibly not `nonNullTy` -/
theorem Conf.nonNull {std : Std} {cfg : Option MetaCfg} {t : Ty} {v : PyVal} (hc : Conf std cfg t v)
    (hn : nonNullTy t = true) : nonNullVal v = true := by
  cases hc <;> first | rfl | cases hn

theorem rt_optSome (t : Ty) (v : PyVal) (hv : nonNullVal v = true) (ih : RT std cfg t v) : RT std cfg (.optional t) v := by
  intro d h
  rw [loadD_optional_nonnull std cfg t (toJ d) (dump_nonnull std cfg v hv d h)]
  exact ih d h

/-- pairwise different hashable elements are what `set(...)` / `frozenset(...)` keep; `list` / `deque` keep everything -/
theorem mkSeq_of_dedup (k : SeqKind) (xs : List PyVal) (hh : xs.all PyVal.hashable = true) (hd : dedupKeep xs = xs) :
    mkSeq k xs = .ok (.seq k xs) := by
  cases k <;> simp [mkSeq, hh, hd, pure, Except.pure]

theorem rt_seq (k : SeqKind) (t : Ty) (xs : List PyVal) (hmk : mkSeq k xs = .ok (.seq k xs))
    (ih : ∀ x ∈ xs, RT std cfg t x) : RT std cfg (.seq k t) (.seq k xs) := by
  intro d h
  rw [dumpV_seq] at h
  obtain ⟨ds, hd, rfl⟩ := Except.map_eq_ok.1 h
  rw [toJ_list]
  unfold loadD
  simp only [jIter, mapME_dumpList std false cfg _ xs ds ih hd, hmk, bind, Except.bind]

theorem rt_vtuple (t : Ty) (xs : List PyVal) (ih : ∀ x ∈ xs, RT std cfg t x) : RT std cfg (.vtuple t) (.tuple xs) := by
  intro d h
  rw [dumpV_tuple] at h
  obtain ⟨ds, hd, rfl⟩ := Except.map_eq_ok.1 h
  rw [toJ_tuple]
  unfold loadD
  simp only [jIter, mapME_dumpList std false cfg _ xs ds ih hd, bind, Except.bind, pure, Except.pure]

theorem rt_map (k : MapKind) (t : Ty) (kvs : List (S × PyVal)) (hnd : (kvs.map (·.1)).Nodup)
    (ih : ∀ p ∈ kvs, RT std cfg t p.2) : RT std cfg (.map k .str t) (.map k (kvs.map pyPair)) := by
  intro d h
  rw [dumpV_map] at h
  obtain ⟨ps, hd, rfl⟩ := Except.map_eq_ok.1 h
  rw [toJ_dict]
  unfold loadD
  simp only [bind, Except.bind]
  rw [mapME_dumpPairs std false cfg _ (loadD std cfg t)
    (fun k j v hv => by simp only [hv]; rfl) kvs ps ih hd]
  exact mkMap_pyPair k kvs hnd

theorem loadZip_ok (ts : List Ty) (xs : List PyVal) (ds : List DVal) (hl : xs.length = ts.length)
    (ih : ∀ p ∈ ts.zip xs, RT std cfg p.1 p.2) (h : dumpList std false cfg xs = .ok ds) :
    loadZip std cfg ts (ds.map toJ) = .ok xs := by
  induction ts generalizing xs ds with
  | nil =>
    cases List.length_eq_zero_iff.1 hl
    cases (dumpList_nil_ok std false cfg).1 h; rfl
  | cons t ts iht =>
    cases xs with
    | nil => cases hl
    | cons x xs =>
      obtain ⟨y, hy, ys, hys, rfl⟩ := (dumpList_cons_ok std false cfg).1 h
      rw [List.zip_cons_cons, List.forall_mem_cons] at ih
      rw [List.map_cons, loadZip, ih.1 y hy, iht xs ys (Nat.succ.inj hl) ih.2 hys]
      rfl

theorem rt_tuple (ts : List Ty) (xs : List PyVal) (hne : ts ≠ []) (hl : xs.length = ts.length)
    (ih : ∀ p ∈ ts.zip xs, RT std cfg p.1 p.2) : RT std cfg (.tuple ts) (.tuple xs) := by
  intro d h
  rw [dumpV_tuple] at h
  obtain ⟨ds, hd, rfl⟩ := Except.map_eq_ok.1 h
  have hlen : (ds.map toJ).length = ts.length := by rw [List.length_map, dumpList_length std false cfg xs ds hd, hl]
  have hreq : (ts.filter (fun t => !acceptsNone t)).length ≤ ts.length := List.length_filter_le _ _
  have hemp : ts.isEmpty = false := List.isEmpty_eq_false_iff.2 hne
  rw [toJ_tuple]
  unfold loadD
  simp only [jLen, jIter, hemp, Bool.false_eq_true, if_false, hlen]
  simp only [hreq, decide_true, Nat.le_refl, Bool.and_self, if_true, loadZip_ok std cfg ts xs ds hl ih hd, bind, Except.bind,
    pure, Except.pure]

theorem loadNtList_eq_loadZip : ∀ (fields : List (S × Ty × Option Dflt)) (js : List JVal),
    loadNtList std cfg fields js = loadZip std cfg (fields.map (·.2.1)) js
  | [], _ => rfl
  | _ :: _, [] => rfl
  | (_, t, _) :: fs, x :: xs => by rw [loadNtList, List.map_cons, loadZip, loadNtList_eq_loadZip fs xs]

theorem rt_ntuple (name : S) (fields : List (S × Ty × Option Dflt)) (xs : List PyVal)
    (hl : xs.length = fields.length) (ih : ∀ p ∈ (fields.map (·.2.1)).zip xs, RT std cfg p.1 p.2) :
    RT std cfg (.ntuple name fields) (.ntuple name (fields.map (·.1)) xs) := by
  intro d h
  rw [dumpV_ntuple] at h
  obtain ⟨ds, hd, rfl⟩ := Except.map_eq_ok.1 h
  rw [toJ_ntuple]
  unfold loadD
  simp only [jIter, bind, Except.bind, loadNtList_eq_loadZip,
    loadZip_ok std cfg _ xs ds (by rw [hl, List.length_map]) ih hd, hl, List.drop_length, List.all_nil,
    if_true, List.filterMap_nil, List.append_nil, pure, Except.pure]

end containers

/-- `find?` by key in the dumped pairs of a TypedDict value: nothing under an undeclared or absent key, the value's dump under
a present one -/
theorem tdPresent_doc (std : Std) (cfg : Option MetaCfg) (fs : List (S × Ty × Bool)) (vs : List (Option PyVal))
    (ps : List (DVal × DVal)) (hnd : (fs.map (·.1)).Nodup)
    (h : dumpPairs std false cfg ((tdPresent fs vs).map pyPair) = .ok ps) :
    (∀ k, k ∉ fs.map (·.1) → (ps.map (fun p => (keyStr p.1, toJ p.2))).find? (fun kv => kv.1 == k) = none) ∧
    ∀ p ∈ fs.zip vs,
      (p.2 = none → (ps.map (fun p => (keyStr p.1, toJ p.2))).find? (fun kv => kv.1 == p.1.1) = none) ∧
      ∀ v, p.2 = some v → ∃ dv, dumpV std false cfg v = .ok dv ∧
        (ps.map (fun p => (keyStr p.1, toJ p.2))).find? (fun kv => kv.1 == p.1.1) = some (p.1.1, toJ dv) := by
  induction fs generalizing vs ps with
  | nil =>
    have : tdPresent [] vs = [] := by cases vs <;> rfl
    rw [this] at h; cases h
    exact ⟨fun _ _ => rfl, fun _ hp => nomatch hp⟩
  | cons f fs ih =>
    obtain ⟨k, t, req⟩ := f
    obtain ⟨hk, hnd⟩ := List.nodup_cons.1 hnd
    cases vs with
    | nil =>
      cases h
      exact ⟨fun _ _ => rfl, fun _ hp => nomatch hp⟩
    | cons ov vs =>
      rw [List.zip_cons_cons, List.forall_mem_cons]
      cases ov with
      | none =>
        obtain ⟨ih1, ih2⟩ := ih vs ps hnd h
        exact ⟨fun k' hk' => ih1 k' fun hm => hk' (List.mem_cons_of_mem _ hm),
          ⟨fun _ => ih1 k hk, fun _ hv => nomatch hv⟩, ih2⟩
      | some v =>
        rw [tdPresent, List.map_cons, dumpPairs_cons_ok] at h
        obtain ⟨k', hk', v', hv, r', hr, rfl⟩ := h
        rw [dumpV_str] at hk'; cases hk'
        obtain ⟨ih1, ih2⟩ := ih vs r' hnd hr
        -- another key passes over the head entry
        have hskip : ∀ k', k' ≠ k →
            (((DVal.str k, v') :: r').map (fun p => (keyStr p.1, toJ p.2))).find? (fun kv => kv.1 == k')
              = (r'.map (fun p => (keyStr p.1, toJ p.2))).find? (fun kv => kv.1 == k') :=
          fun k' hne => List.find?_cons_of_neg (by simpa [keyStr] using hne.symm)
        refine ⟨fun k' hk' => ?_, ⟨fun hn => (nomatch hn), fun w hw => ?_⟩, fun p hp => ?_⟩
        · rw [hskip k' fun e => hk' (e ▸ List.mem_cons_self ..)]
          exact ih1 k' fun hm => hk' (List.mem_cons_of_mem _ hm)
        · cases hw
          exact ⟨v', hv, List.find?_cons_of_pos (by simp [keyStr])⟩
        · rw [hskip p.1.1 fun e => hk (e ▸ List.mem_map.2 ⟨p.1, (List.of_mem_zip hp).1, rfl⟩)]
          exact ih2 p hp

theorem tdWith_present (L : Ty → JVal → LRes) (J : List (S × JVal)) (fs : List (S × Ty × Bool))
    (vals : List (Option PyVal)) (hl : vals.length = fs.length)
    (hn : ∀ p ∈ fs.zip vals, p.2 = none → p.1.2.2 = false ∧ J.find? (fun kv => kv.1 == p.1.1) = none)
    (hs : ∀ p ∈ fs.zip vals, ∀ v, p.2 = some v → ∃ j, J.find? (fun kv => kv.1 == p.1.1) = some (p.1.1, j) ∧
        L p.1.2.1 j = .ok v) :
    tdWith L fs J = .ok ((tdPresent fs vals).map pyPair) := by
  induction fs generalizing vals with
  | nil => cases vals <;> rfl
  | cons f fs ih =>
    obtain ⟨k, t, req⟩ := f
    cases vals with
    | nil => cases hl
    | cons ov vs =>
      rw [List.zip_cons_cons, List.forall_mem_cons] at hn hs
      have ih := ih vs (Nat.succ.inj hl) hn.2 hs.2
      cases ov with
      | none =>
        obtain ⟨rfl, hfind⟩ := hn.1 rfl
        rw [tdWith, hfind, tdPresent, ← ih]
        rfl
      | some v =>
        obtain ⟨j, hfind, hL⟩ := hs.1 v rfl
        rw [tdWith, hfind, tdPresent]
        simp only [hL, ih, bind, Except.bind, pure, Except.pure, List.map_cons]

/-- the engine-free half of the TypedDict step: the dump is a JSON object from which the loop `tdWith`, over any element
loader that undoes the dump of the values present, rebuilds the entries -/
theorem tdWith_dumped (std : Std) (cfg : Option MetaCfg) (L : Ty → JVal → LRes) (fields : List (S × Ty × Bool))
    (vals : List (Option PyVal)) (hnd : (fields.map (·.1)).Nodup) (hl : vals.length = fields.length)
    (hopt : ∀ p ∈ fields.zip vals, p.2 = none → p.1.2.2 = false)
    (ih : ∀ p ∈ fields.zip vals, ∀ v, p.2 = some v → Undoes std false cfg (L p.1.2.1) v) (d : DVal)
    (h : dumpV std false cfg (.map .dict ((tdPresent fields vals).map pyPair)) = .ok d) :
    ∃ J, toJ d = .dict J ∧ tdWith L fields J = .ok ((tdPresent fields vals).map pyPair) := by
  rw [dumpV_map] at h
  obtain ⟨ps, hd, rfl⟩ := Except.map_eq_ok.1 h
  obtain ⟨_, hdoc⟩ := tdPresent_doc std cfg fields vals ps hnd hd
  refine ⟨_, toJ_dict _ ps, tdWith_present L _ fields vals hl (fun p hp hpn => ⟨hopt p hp hpn, (hdoc p hp).1 hpn⟩)
    fun p hp v hpv => ?_⟩
  obtain ⟨dv, h1, h2⟩ := (hdoc p hp).2 v hpv
  exact ⟨_, h2, ih p hp v hpv dv h1⟩

theorem rt_typeddict (std : Std) (cfg : Option MetaCfg) (name : S) (fields : List (S × Ty × Bool)) (vals : List (Option PyVal))
    (hnd : (fields.map (·.1)).Nodup) (hl : vals.length = fields.length)
    (hopt : ∀ p ∈ fields.zip vals, p.2 = none → p.1.2.2 = false)
    (ih : ∀ p ∈ fields.zip vals, ∀ v, p.2 = some v → RT std cfg p.1.2.1 v) :
    RT std cfg (.typeddict name fields) (.map .dict ((tdPresent fields vals).map pyPair)) := by
  intro d h
  obtain ⟨J, htj, hload⟩ := tdWith_dumped std cfg (loadD std cfg) fields vals hnd hl hopt ih d h
  rw [htj]
  unfold loadD
  simp only [loadTd_eq, hload]
  rfl

theorem asEnum_unique (name : S) (members : List (S × Lit)) (m : S) (v : Lit) (hm : (m, v) ∈ members)
    (hrefl : jEqLit v.toJ v = true) (huniq : ∀ m' ∈ members, jEqLit v.toJ m'.2 = true → m' = (m, v)) :
    asEnum name members v.toJ = .ok (.enum name m v) := by
  rw [asEnum, find?_of_unique hm hrefl huniq]
  rfl

theorem rt_enum (std : Std) (cfg : Option MetaCfg) (name : S) (members : List (S × Lit)) (m : S) (v : Lit) (hm : (m, v) ∈ members)
    (hrefl : jEqLit v.toJ v = true) (huniq : ∀ m' ∈ members, jEqLit v.toJ m'.2 = true → m' = (m, v)) :
    RT std cfg (.enum name members) (.enum name m v) := by
  intro d h
  rw [dumpV_enum] at h; cases h
  rw [toJ_litToD]
  exact asEnum_unique name members m v hm hrefl huniq

theorem colon_mem_tdStr (us : Int) : ':' ∈ tdStr us := by
  unfold tdStr
  -- the names follow the `let`s of `tdStr` one by one, in its order
  extract_lets day days rem secs micro mm ss hh mm' base withDays
  have hb : ':' ∈ base := by simp [base]
  have hw : ':' ∈ withDays := by
    show ':' ∈ (if days = 0 then base else _)
    split
    · exact hb
    · exact List.mem_append_right _ hb
  split
  · exact hw
  · exact List.mem_append_left _ (List.mem_append_left _ hw)

/-- `str(timedelta)` holds a `:`, so `as_timedelta` hands it to `timeparse` and not to `float` -/
theorem asTimedelta_tdStr (std : Std) (laws : StdLaws std) (us : Int) (h0 : 0 ≤ us) :
    asTimedelta std (.str (tdStr us)) = .ok (.timedelta us) := by
  obtain ⟨n, hn, hs⟩ := laws.timedelta_rt us h0
  simp only [asTimedelta, looksNumeric_false_of_mem (colon_mem_tdStr us) (by decide) (by decide), Bool.false_eq_true, if_false, hn, hs,
    pure, Except.pure]

theorem rt_timedelta (std : Std) (cfg : Option MetaCfg) (laws : StdLaws std) (us : Int) (h0 : 0 ≤ us) : RT std cfg .timedelta (.timedelta us) := by
  intro d h
  rw [dumpV_timedelta] at h; cases h
  exact asTimedelta_tdStr std laws us h0

theorem loadD_leafText (std : Std) (cfg : Option MetaCfg) (laws : StdLaws std) (k : LeafKind) (t : S)
    (ht : std.validTok k t = true) : loadD std cfg (.leaf k) (.str (leafText k t)) = .ok (.leaf k false t) := by
  cases k <;> unfold loadD
  · simp only [leafText, asDecimal, strOfJ, laws.decimal_rt t ht]; rfl
  · simp only [leafText, asPath, strOfJ, laws.path_rt t ht]; rfl
  · simp only [leafText, asUuid, laws.uuid_rt t ht]; rfl
  · simp only [leafText, asDate, laws.date_rt t ht]; rfl
  · simp only [leafText, asTime, zToOffset_isoZ t (laws.time_noZ t ht), laws.time_rt t ht]; rfl
  · simp only [leafText, asDatetime, zToOffset_isoZ t (laws.datetime_noZ t ht), laws.datetime_rt t ht]; rfl

theorem rt_leaf (std : Std) (cfg : Option MetaCfg) (laws : StdLaws std) (k : LeafKind) (t : S) (ht : std.validTok k t = true) :
    RT std cfg (.leaf k) (.leaf k false t) := by
  intro d h
  rw [dumpV_leaf] at h; cases h
  exact loadD_leafText std cfg laws k t ht

theorem lit_hashable (l : Lit) : l.toJ.hashable = true := by
  cases l <;> rfl

theorem rt_literal (std : Std) (cfg : Option MetaCfg) (vs : List Lit) (l : Lit)
    (hf : vs.find? (fun l' => jEqLit l.toJ l') = some l) : RT std cfg (.literal vs) l.toPy := by
  intro d h
  rw [dumpV_lit] at h; cases h
  rw [toJ_litToD]
  unfold loadD asLiteral
  simp only [lit_hashable, Bool.not_true, Bool.false_eq_true, if_false, hf]
  cases l <;> simp [Lit.toJ, pure, Except.pure]

theorem find_unique_rev {α : Type} (key : α → S) (l : List α) (a : α) (hnd : (l.map key).Nodup) (h : a ∈ l) :
    l.reverse.find? (fun p => key p == key a) = some a :=
  find_unique key l.reverse a (by rw [List.map_reverse]; exact List.pairwise_reverse.2 (hnd.imp Ne.symm)) (List.mem_reverse.2 h)

/-- `pre` holds the keyword arguments of the fields already built, `suf` those still to come: generalised over `pre` so that
the induction can move the head across -/
theorem buildFields_ok (suf pre : List (S × PyVal)) (F : List FieldInfo) (hn : F.map (·.name) = suf.map (·.1))
    (hnd : ((pre ++ suf).map (·.1)).Nodup) (hi : ∀ f ∈ F, f.init = true) : buildFields (pre ++ suf) F = .ok suf := by
  induction suf generalizing pre F with
  | nil => cases List.map_eq_nil_iff.1 hn; rfl
  | cons p suf ih =>
    obtain ⟨n, v⟩ := p
    cases F with
    | nil => cases hn
    | cons f F =>
      obtain ⟨(hn1 : f.name = n), hn2⟩ := List.cons.inj hn
      obtain ⟨hif, hi⟩ := List.forall_mem_cons.1 hi
      have hfind : (pre ++ (n, v) :: suf).reverse.find? (fun p => p.1 == n) = some (n, v) :=
        find_unique_rev (fun p : S × PyVal => p.1) (pre ++ (n, v) :: suf) (n, v) hnd (by simp)
      refine Build.buildFields_cons_ok.mpr ⟨v, suf, ?_, ?_, by rw [hn1]⟩
      · rw [Props.C09.fieldValue, if_pos hif, hn1, hfind]
      · simpa using ih (pre ++ [(n, v)]) F hn2 (by simpa using hnd) hi

theorem fieldWith_lookup (L : Ty → JVal → LRes) (ftys : List (S × Ty)) (n : S) (t : Ty) (hnd : (ftys.map (·.1)).Nodup)
    (h : (n, t) ∈ ftys) (j : JVal) : fieldWith L ftys n j = L t j := by
  have hfind : ftys.find? (fun p => p.1 == n) = some (n, t) := find_unique (fun p : S × Ty => p.1) ftys (n, t) hnd h
  rw [fieldWith, tyOf, hfind]
  rfl

theorem finishKw_ok (ci : ClassInfo) (hnd : (ci.fields.map (·.name)).Nodup) (hinit : ∀ f ∈ ci.fields, f.init = true)
    (K : List (S × PyVal)) (hK : K.map (·.1) = ci.fields.map (·.name)) : finishKw ci K = .ok (.inst ci K) := by
  refine Build.finishKw_ok_iff.mpr ⟨?_, K, ?_, rfl⟩
  · rw [missingInit, List.filter_eq_nil_iff]
    intro f hf
    have : (K.map (·.1)).contains f.name = true := by
      rw [hK]; exact List.contains_iff_mem.2 (List.mem_map.2 ⟨f, hf, rfl⟩)
    simp only [this, Bool.not_true, Bool.and_false, Bool.false_eq_true, not_false_eq_true]
  · simpa using buildFields_ok K [] ci.fields hK.symm (by simpa [hK] using hnd) hinit

theorem noCatchAll (ci : ClassInfo) (h : ∀ f ∈ ci.fields, f.isCatchAll = false) : ci.fields.find? (·.isCatchAll) = none := by
  rw [List.find?_eq_none]; intro f hf; simp [h f hf]

theorem loadKeys_tagSfx (std : Std) (cfg : Option MetaCfg) (ci : ClassInfo) (ftys : List (S × Ty)) (tg : Option S)
    (hp : ClsOK cfg ci ftys tg) :
    loadKeysWith (fun f v => loadField std cfg f v ftys) (effMeta ci.cmeta cfg) ci (tagSfx (effMeta ci.cmeta cfg) tg) = .ok ([], []) := by
  cases tg with
  | none => rfl
  | some t =>
    have hf := hp.tagFacts t rfl
    have hres := resolveKey_tagKey _ ci t hp.tag hf.notField hf.notAlias
    simp only [tagSfx, loadKeysWith, hres, bind, Except.bind]
    rfl

/-- the dump key of a field, as a total function -/
def keyOf (eff : MetaCfg) (f : FieldInfo) : S :=
  match dumpKey eff f with
  | .ok k => k
  | .error _ => []

theorem ClsOK.keyOf_spec {cfg : Option MetaCfg} {ci : ClassInfo} {ftys : List (S × Ty)} {tg : Option S}
    (hp : ClsOK cfg ci ftys tg) (f : FieldInfo) (hf : f ∈ ci.fields) :
    dumpKey (effMeta ci.cmeta cfg) f = .ok (keyOf (effMeta ci.cmeta cfg) f) ∧
      resolveKey (effMeta ci.cmeta cfg) ci (keyOf (effMeta ci.cmeta cfg) f) = .ok (.field f.name) := by
  obtain ⟨k, h1, h2⟩ := hp.keys f hf
  simp only [keyOf, h1, h2, and_self]

/-- the key loop over the dumped fields followed by any `sfx` (the tag entry, in `cls_roundtrip`): the field names zipped with the
values, then what `sfx` alone gives -/
theorem loadKeys_fields (std : Std) (cfg : Option MetaCfg) (eff : MetaCfg) (ci : ClassInfo) (L : S → JVal → LRes)
    (sfx : List (S × JVal)) (res : List (S × PyVal) × List (PyVal × PyVal)) (hsfx : loadKeysWith L eff ci sfx = .ok res)
    (kf : FieldInfo → S) (fs : List FieldInfo) (hkf : ∀ f ∈ fs, resolveKey eff ci (kf f) = .ok (.field f.name))
    (vals : List PyVal) (ds : List DVal) (hl : vals.length = fs.length) (h : dumpList std false cfg vals = .ok ds)
    (hL : ∀ p ∈ (fs.map (·.name)).zip vals, ∀ d, dumpV std false cfg p.2 = .ok d → L p.1 (toJ d) = .ok p.2) :
    loadKeysWith L eff ci ((fs.map kf).zip (ds.map toJ) ++ sfx) = .ok ((fs.map (·.name)).zip vals ++ res.1, res.2) := by
  induction fs generalizing vals ds with
  | nil =>
    cases List.length_eq_zero_iff.1 hl
    cases (dumpList_nil_ok std false cfg).1 h
    simpa using hsfx
  | cons f fs ih =>
    cases vals with
    | nil => cases hl
    | cons v vals =>
      obtain ⟨d, hd, ds', hds, rfl⟩ := (dumpList_cons_ok std false cfg).1 h
      obtain ⟨hf, hkf⟩ := List.forall_mem_cons.1 hkf
      rw [List.map_cons, List.zip_cons_cons, List.forall_mem_cons] at hL
      simp only [List.map_cons, List.zip_cons_cons, List.cons_append, loadKeysWith, hf, bind, Except.bind,
        hL.1 d hd, Except.mapError, ih hkf vals ds' (Nat.succ.inj hl) hds hL.2]
      rfl

/-- the engine-free half of the class step, in the form either engine's field loop takes it (`loadKeys_fields`, `RTV1.v1Fields_ok`):
the values dumped as a list, the JSON object as keys zipped with them plus the tag entry, each value read back by `L` at its field's type -/
theorem inst_dumped (std : Std) (cfg : Option MetaCfg) (ci : ClassInfo) (ftys : List (S × Ty)) (vals : List PyVal)
    (hn : NoSkip (effMeta ci.cmeta cfg)) (hnames : ci.fields.map (·.name) = ftys.map (·.1))
    (hnd : (ci.fields.map (·.name)).Nodup)
    (hpl : ∀ f ∈ ci.fields, f.isCatchAll = false ∧ f.dumpSkip = false ∧ f.skipIf = none)
    (kf : FieldInfo → S) (hk : ∀ f ∈ ci.fields, dumpKey (effMeta ci.cmeta cfg) f = .ok (kf f))
    (hlen : vals.length = ftys.length) (L : Ty → JVal → LRes)
    (ih : ∀ p ∈ ftys.zip vals, Undoes std false cfg (L p.1.2) p.2)
    (d : DVal) (h : dumpV std false cfg (.inst ci ((ftys.map (·.1)).zip vals)) = .ok d) :
    ∃ ds, dumpList std false cfg vals = .ok ds ∧ vals.length = ci.fields.length ∧
      toJ d = .dict ((ci.fields.map kf).zip (ds.map toJ) ++ tagSfx (effMeta ci.cmeta cfg) (effMeta ci.cmeta cfg).tag) ∧
      ∀ p ∈ (ci.fields.map (·.name)).zip vals, ∀ d, dumpV std false cfg p.2 = .ok d →
        fieldWith L ftys p.1 (toJ d) = .ok p.2 := by
  have hl' : vals.length = ci.fields.length := by
    rw [hlen, ← List.length_map (f := fun p : S × Ty => p.1), ← hnames, List.length_map]
  rw [← hnames] at h
  obtain ⟨ds, hds, htj⟩ := dumpV_inst_plain std cfg ci hn hnd hpl kf hk vals hl' d h
  refine ⟨ds, hds, hl', htj, fun p hp' d hd => ?_⟩
  rw [hnames, List.zip_map_left] at hp'
  obtain ⟨e, he, rfl⟩ := List.mem_map.1 hp'
  rw [Prod.map_fst, fieldWith_lookup L ftys e.1.1 e.1.2 (hnames ▸ hnd) (List.of_mem_zip he).1]
  exact ih e he d hd

/-- the generated `cls_fromdict` of a class of the fragment (tagged or not) reads back what its `cls_asdict` wrote -/
theorem cls_roundtrip (std : Std) (cfg : Option MetaCfg) (ci : ClassInfo) (ftys : List (S × Ty)) (vals : List PyVal)
    (tg : Option S) (hp : ClsOK cfg ci ftys tg) (hlen : vals.length = ftys.length)
    (ih : ∀ p ∈ ftys.zip vals, RT std cfg p.1.2 p.2)
    (d : DVal) (h : dumpV std false cfg (.inst ci ((ftys.map (·.1)).zip vals)) = .ok d) :
    ∃ js, toJ d = .dict ((ci.fields.map (keyOf (effMeta ci.cmeta cfg))).zip js ++ tagSfx (effMeta ci.cmeta cfg) tg) ∧
      loadClassWith (fun f v => loadField std cfg f v ftys) (effMeta ci.cmeta cfg) ci (toJ d)
        = .ok (.inst ci ((ftys.map (·.1)).zip vals)) := by
  obtain ⟨ds, hds, hl', htj, hL⟩ := inst_dumped std cfg ci ftys vals hp.noSkip hp.names hp.nodup
    (fun f hf => (hp.plain f hf).2) (keyOf _) (fun f hf => (hp.keyOf_spec f hf).1) hlen (loadD std cfg) ih d h
  rw [hp.tag] at htj
  have hchain := loadKeys_fields std cfg _ ci _ _ _ (loadKeys_tagSfx std cfg ci ftys tg hp) (keyOf _) ci.fields
    (fun f hf => (hp.keyOf_spec f hf).2) vals ds hl' hds
    (fun p hp' d hd => (loadField_eq std cfg _ _ ftys).trans (hL p hp' d hd))
  refine ⟨_, htj, ?_⟩
  rw [htj, ← hp.names]
  simp only [loadClassWith, hchain, List.append_nil, bind, Except.bind]
  rw [Build.finishClass_noCatchAll _ _ _ _ (noCatchAll ci fun f hf => (hp.plain f hf).2.1)]
  exact finishKw_ok ci hp.nodup (fun f hf => (hp.plain f hf).1) _ (List.map_fst_zip (by simp [hl']))

theorem rt_inst (std : Std) (cfg : Option MetaCfg) (ci : ClassInfo) (ftys : List (S × Ty)) (vals : List PyVal) (tg : Option S)
    (hp : ClsOK cfg ci ftys tg) (hlen : vals.length = ftys.length) (ih : ∀ p ∈ ftys.zip vals, RT std cfg p.1.2 p.2) :
    RT std cfg (.cls ci ftys) (.inst ci ((ftys.map (·.1)).zip vals)) := by
  intro d h
  obtain ⟨_, _, hload⟩ := cls_roundtrip std cfg ci ftys vals tg hp hlen ih d h
  exact hload

/-- a tagged dataclass inside a Union of dataclasses: the dump carries the tag, the Union loader dispatches on it and the
member's own loader reads the rest back -/
theorem rt_unionTagged (std : Std) (cfg : Option MetaCfg) (pre post : List Ty) (ci : ClassInfo) (ftys : List (S × Ty))
    (vals : List PyVal) (tg : S) (hp : ClsOK cfg ci ftys (some tg)) (hlen : vals.length = ftys.length)
    (ih : ∀ p ∈ ftys.zip vals, RT std cfg p.1.2 p.2)
    (hpre : ∀ t ∈ pre, OtherMember cfg tg t) (hpost : ∀ t ∈ post, OtherMember cfg tg t) :
    RT std cfg (.union (pre ++ .cls ci ftys :: post)) (.inst ci ((ftys.map (·.1)).zip vals)) := by
  intro d h
  obtain ⟨js, htj, hload⟩ := cls_roundtrip std cfg ci ftys vals (some tg) hp hlen ih d h
  have hf := hp.tagFacts tg rfl
  rw [htj] at hload ⊢
  have hclaim : ∀ o, NoDictClaim (pre ++ .cls ci ftys :: post) o := by
    intro o t ht
    rw [List.mem_append, List.mem_cons] at ht
    rcases ht with ht | rfl | ht
    · exact (hpre t ht).1.imp_right Or.inl
    · exact Or.inl rfl
    · exact (hpost t ht).1.imp_right Or.inl
  have hfind := find_tagSfx (effMeta ci.cmeta cfg) tg (ci.fields.map (keyOf (effMeta ci.cmeta cfg))) js (fun hmem => by
    obtain ⟨f, hfm, hk⟩ := List.mem_map.1 hmem
    exact hf.notDumpKey f hfm (by rw [(hp.keyOf_spec f hfm).1, hk]))
  rw [hf.keyAgree] at hfind
  rw [loadD_dispatch_core std cfg tg pre post ci ftys _ hf.member (fun t ht => (hpre t ht).2) (fun t ht => (hpost t ht).2) (hclaim _) hfind]
  exact hload

theorem rt_unionNone (std : Std) (cfg : Option MetaCfg) (ts : List Ty)
    (h : ts.any isNoneTy = true) : RT std cfg (.union ts) .none := by
  intro d hd; rw [dumpV_none] at hd; cases hd
  -- `isNoneTy` is, by unfolding, the test `loadD` applies to the members
  exact if_pos (Bool.and_eq_true_iff.2 ⟨rfl, h⟩)

theorem roundtrip (std : Std) (cfg : Option MetaCfg) (laws : StdLaws std) (t : Ty) (v : PyVal) (hc : Conf std cfg t v) : RT std cfg t v := by
  induction hc with
  | int i => exact rt_int std cfg i
  | float f => exact rt_float std cfg f
  | leaf k t ht => exact rt_leaf std cfg laws k t ht
  | timedelta us h0 => exact rt_timedelta std cfg laws us h0
  | str s => exact rt_str std cfg s
  | bool b => exact rt_bool std cfg b
  | optNone t => exact rt_optNone std cfg t
  | optSome t v hn hc ih => exact rt_optSome std cfg t v (hc.nonNull hn) ih
  | list t xs _ ih => exact rt_seq std cfg .list t xs rfl ih
  | vtuple t xs _ ih => exact rt_vtuple std cfg t xs ih
  | deque t xs _ ih => exact rt_seq std cfg .deque t xs rfl ih
  | tuple ts xs hne hl _ ih => exact rt_tuple std cfg ts xs hne hl ih
  | enum name members m v hm hr hu => exact rt_enum std cfg name members m v hm hr hu
  | dict t kvs hnd _ ih => exact rt_map std cfg .dict t kvs hnd ih
  | inst ci ftys vals tg hp hlen _ ih => exact rt_inst std cfg ci ftys vals tg hp hlen ih
  | unionTagged pre post ci ftys vals tg hp hlen _ hpre hpost ih => exact rt_unionTagged std cfg pre post ci ftys vals tg hp hlen ih hpre hpost
  | unionNone ts h => exact rt_unionNone std cfg ts h
  | set t xs hh hd _ ih => exact rt_seq std cfg .set t xs (mkSeq_of_dedup _ xs hh hd) ih
  | frozenset t xs hh hd _ ih => exact rt_seq std cfg .frozenset t xs (mkSeq_of_dedup _ xs hh hd) ih
  | defaultdict t kvs hnd _ ih => exact rt_map std cfg .defaultdict t kvs hnd ih
  | ordereddict t kvs hnd _ ih => exact rt_map std cfg .ordereddict t kvs hnd ih
  | literal vs l hf => exact rt_literal std cfg vs l hf
  | ntuple name fields xs hl _ ih => exact rt_ntuple std cfg name fields xs hl ih
  | typeddict name fields vals hnd hl hopt _ ih => exact rt_typeddict std cfg name fields vals hnd hl hopt ih

/-- at the top level: `fromdict(cls, json(asdict(x))) = x` for a main class -/
theorem roundtrip_root (std : Std) (laws : StdLaws std) (ci : ClassInfo) (ftys : List (S × Ty)) (v : PyVal)
    (hc : Conf std (rootConfig ci.cmeta) (.cls ci ftys) v)
    (d : DVal) (h : asdict std {} v = .ok d) : fromdict std (.cls ci ftys) (toJ d) = .ok v := by
  cases hc with
  | inst _ _ vals tg hp hlen hall =>
    rw [asdict_inst] at h
    obtain ⟨_, _, hload⟩ := cls_roundtrip std _ ci ftys vals tg hp hlen
      (fun p hp' => roundtrip std _ laws _ _ (hall p hp')) d h
    rw [effMeta_root] at hload
    rw [fromdict, hload]

/-- a nested, *configured* model of the fragment (non-vacuity of `PlainCls` / `Conf`): the main class declares
`key_transform_with_dump = 'LISP'`, which travels to the nested class; one field carries aliases with `all=True`. That the
classes are `PlainCls` is shown in `Props/C01.lean` (`exInner_plain`, `exRoot_plain`). -/
def exMeta : MetaCfg := { keyTransformDump := some .lisp }
def exCfg : Option MetaCfg := rootConfig (some exMeta)
def exInner : ClassInfo :=
  { name := "Inner".toList,
    fields := [{ name := "val_one".toList }, { name := "tags".toList, loadKeys := ["TAGS".toList, "labels".toList], dumpAll := true }] }
def exInnerTys : List (S × Ty) := [("val_one".toList, .int), ("tags".toList, .seq .list .str)]
def exRoot : ClassInfo :=
  { name := "Root".toList, cmeta := some exMeta,
    fields := [{ name := "inner_obj".toList }, { name := "by_name".toList }, { name := "maybe".toList }] }
def exRootTys : List (S × Ty) :=
  [("inner_obj".toList, .cls exInner exInnerTys), ("by_name".toList, .map .dict .str (.cls exInner exInnerTys)), ("maybe".toList, .optional .bool)]

end DW.RT