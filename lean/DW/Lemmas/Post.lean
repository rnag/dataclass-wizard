/- Partial correctness of `Except` computations: `Post r P` says that whatever `r` returns satisfies `P`. The rules follow
the shape of a `do` block (`bind`, `pure`, an error, `mapError`, `mapME`), so a statement "every successful result of the
loader satisfies ..." is proved by walking down the loader's definition. -/
import DW.Model.Load
import DW.Lemmas.Except

namespace DW

variable {ε ε' α β : Type}

def Post (r : Except ε α) (P : α → Prop) : Prop := ∀ y, r = .ok y → P y

namespace Post

theorem error {e : ε} {P : α → Prop} : Post (.error e) P := fun _ h => nomatch h

theorem ok {a : α} {P : α → Prop} (h : P a) : Post (.ok a : Except ε α) P := fun _ e => (Except.ok.inj e) ▸ h

theorem pure {a : α} {P : α → Prop} (h : P a) : Post (Pure.pure a : Except ε α) P := ok h

theorem mono {r : Except ε α} {P Q : α → Prop} (h : Post r P) (hPQ : ∀ a, P a → Q a) : Post r Q :=
  fun y hy => hPQ y (h y hy)

/-- the continuation may also use that `r` returned `a` -/
theorem bind' {r : Except ε α} {f : α → Except ε β} {P : β → Prop} (hf : ∀ a, r = .ok a → Post (f a) P) :
    Post (r >>= f) P := by
  cases r with
  | error e => exact error
  | ok a => exact hf a rfl

theorem bind {r : Except ε α} {f : α → Except ε β} {Q : α → Prop} {P : β → Prop} (hr : Post r Q)
    (hf : ∀ a, Q a → Post (f a) P) : Post (r >>= f) P :=
  bind' fun a ha => hf a (hr a ha)

theorem ite {c : Prop} [Decidable c] {a b : Except ε α} {P : α → Prop} (ha : c → Post a P) (hb : ¬c → Post b P) :
    Post (if c then a else b) P := by
  split
  · next h => exact ha h
  · next h => exact hb h

theorem of_mapError {r : Except ε α} {f : ε → ε'} {y : α} (h : r.mapError f = .ok y) : r = .ok y := by
  cases r with
  | error e => cases h
  | ok a => exact Except.ok.inj h ▸ rfl

theorem mapError {r : Except ε α} {f : ε → ε'} {P : α → Prop} (h : Post r P) : Post (r.mapError f) P :=
  fun y hy => h y (of_mapError hy)

theorem mapME {f : α → Except LErr β} {P : β → Prop} {l : List α} (h : ∀ x ∈ l, Post (f x) P) :
    Post (DW.mapME f l) (fun ys => ∀ y ∈ ys, P y) := by
  induction l with
  | nil => exact pure (fun _ h => nomatch h)
  | cons x l ih =>
    obtain ⟨hx, hl⟩ := List.forall_mem_cons.1 h
    exact bind hx fun _ hy => bind (ih hl) fun _ hys => pure (List.forall_mem_cons.2 ⟨hy, hys⟩)

end Post
end DW
