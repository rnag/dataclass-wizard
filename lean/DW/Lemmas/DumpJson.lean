/- What both round trips share, independent of the load engine: the JSON image `toJ` of a dump result, the transfer of
"every element loads back" through `dumpList` / `dumpPairs` to `mapME` of an arbitrary element loader, the values whose
dump is never JSON null, the document a class of the fragment is dumped to (`dumpV_inst_plain`: the fields' keys zipped with
the values' dumps, then the tag entry `tagSfx`) with the list facts about it, and the rebuilding of a `dict[str, ·]` on the
load side. -/
import DW.Model.Load
import DW.Lemmas.DumpFields
namespace DW

theorem forall_mem_pair {α : Type} {P : α → Prop} {a b : α} (ha : P a) (hb : P b) : ∀ x ∈ [a, b], P x :=
  List.forall_mem_cons.2 ⟨ha, List.forall_mem_singleton.2 hb⟩

theorem find?_of_unique {α : Type} {p : α → Bool} {l : List α} {a : α} (ha : a ∈ l) (hp : p a = true)
    (hu : ∀ x ∈ l, p x = true → x = a) : l.find? p = some a := by
  cases hf : l.find? p with
  | none => exact absurd hp (by simpa using List.find?_eq_none.1 hf a ha)
  | some x => rw [hu x (List.mem_of_find?_eq_some hf) (List.find?_some hf)]

theorem mapME_ok_cons {α β : Type} {f : α → Except LErr β} {x : α} {xs : List α} {y : β} {ys : List β}
    (h1 : f x = .ok y) (h2 : mapME f xs = .ok ys) : mapME f (x :: xs) = .ok (y :: ys) := by
  rw [mapME, h1, h2]
  rfl

namespace RT

/-- the key of a JSON object entry as `json.dumps` writes it (string keys only in the fragment) -/
def keyStr : DVal → S
  | .str s => s
  | _ => []

mutual
/-- what `json.loads(json.dumps(d))` makes of a dump result -/
def toJ : DVal → JVal
  | .null => .null
  | .bool b => .bool b
  | .int i => .int i
  | .float f => .float f
  | .str s => .str s
  | .list xs => .list (toJList xs)
  | .tuple xs => .list (toJList xs)
  | .ntuple _ xs => .list (toJList xs)
  | .dict _ kvs => .dict (toJPairs kvs)
  | .bad _ => .null
def toJList : List DVal → List JVal
  | [] => []
  | x :: xs => toJ x :: toJList xs
def toJPairs : List (DVal × DVal) → List (S × JVal)
  | [] => []
  | (k, v) :: r => (keyStr k, toJ v) :: toJPairs r
end

/-- the Python-side pair of a `dict[str, ·]` entry -/
abbrev pyPair (p : S × PyVal) : PyVal × PyVal := (.str p.1, p.2)

theorem toJList_eq_map (ds : List DVal) : toJList ds = ds.map toJ := by
  induction ds with
  | nil => rfl
  | cons x r ih => simp [toJList, ih]

theorem toJList_length (ds : List DVal) : (toJList ds).length = ds.length := by
  rw [toJList_eq_map, List.length_map]

theorem toJPairs_eq_map (ps : List (DVal × DVal)) : toJPairs ps = ps.map (fun p => (keyStr p.1, toJ p.2)) := by
  induction ps with
  | nil => rfl
  | cons x r ih => obtain ⟨k, v⟩ := x; simp [toJPairs, ih]

@[simp] theorem toJ_list (xs : List DVal) : toJ (.list xs) = .list (xs.map toJ) := congrArg JVal.list (toJList_eq_map xs)
@[simp] theorem toJ_tuple (xs : List DVal) : toJ (.tuple xs) = .list (xs.map toJ) := congrArg JVal.list (toJList_eq_map xs)
@[simp] theorem toJ_ntuple (c : S) (xs : List DVal) : toJ (.ntuple c xs) = .list (xs.map toJ) := congrArg JVal.list (toJList_eq_map xs)
@[simp] theorem toJ_dict (o : Bool) (ps : List (DVal × DVal)) :
    toJ (.dict o ps) = .dict (ps.map (fun p => (keyStr p.1, toJ p.2))) := congrArg JVal.dict (toJPairs_eq_map ps)
@[simp] theorem toJ_str (s : S) : toJ (.str s) = .str s := rfl
@[simp] theorem toJ_null : toJ .null = .null := rfl
@[simp] theorem toJ_int (i : Int) : toJ (.int i) = .int i := rfl
@[simp] theorem toJ_float (f : PyFloat) : toJ (.float f) = .float f := rfl
@[simp] theorem toJ_bool (b : Bool) : toJ (.bool b) = .bool b := rfl

theorem toJ_litToD (v : Lit) : toJ v.toD = v.toJ := by
  cases v <;> simp [Lit.toD, Lit.toJ]

/-- the tag key a class's dumper writes / its loader ignores -/
abbrev tagKeyOf (eff : MetaCfg) : S := eff.tagKey.getD Generated.tagKey.toList

/-- the JSON pairs of the tag entry a class's dumper appends -/
def tagSfx (eff : MetaCfg) : Option S → List (S × JVal)
  | none => []
  | some t => [(tagKeyOf eff, .str t)]

theorem toJ_finishInst (eff : MetaCfg) (body : List (DVal × DVal)) :
    toJ (finishInst eff body) = .dict (body.map (fun p => (keyStr p.1, toJ p.2)) ++ tagSfx eff eff.tag) := by
  unfold finishInst
  cases eff.tag with
  | none => rw [toJ_dict, tagSfx, List.append_nil]
  | some t => rw [toJ_dict, List.map_append]; rfl

section
variable (std : Std) (ts : Bool) (cfg : Option MetaCfg)

/-- `f` undoes the dump of `v`: the round-trip statement, for an arbitrary loader -/
def Undoes (f : JVal → Except LErr PyVal) (v : PyVal) : Prop :=
  ∀ d, dumpV std ts cfg v = .ok d → f (toJ d) = .ok v

theorem mapME_dumpList (f : JVal → Except LErr PyVal) (xs : List PyVal) (ds : List DVal)
    (ih : ∀ x ∈ xs, Undoes std ts cfg f x) (h : dumpList std ts cfg xs = .ok ds) : mapME f (ds.map toJ) = .ok xs := by
  induction xs generalizing ds with
  | nil => cases (dumpList_nil_ok std ts cfg).1 h; rfl
  | cons x xs ihr =>
    obtain ⟨y, hy, ys, hys, rfl⟩ := (dumpList_cons_ok std ts cfg).1 h
    obtain ⟨ihx, ih⟩ := List.forall_mem_cons.1 ih
    exact mapME_ok_cons (ihx y hy) (ihr ys ih hys)

/-- `mapME_dumpList` for a mapping with string keys: an entry loader `g` that keeps the key as it stands and reads the value with `f`
reads the dumped pairs back -/
theorem mapME_dumpPairs (g : S × JVal → Except LErr (PyVal × PyVal)) (f : JVal → Except LErr PyVal)
    (hg : ∀ k j v, f j = .ok v → g (k, j) = .ok (.str k, v)) (kvs : List (S × PyVal)) (ps : List (DVal × DVal))
    (ih : ∀ p ∈ kvs, Undoes std ts cfg f p.2) (h : dumpPairs std ts cfg (kvs.map pyPair) = .ok ps) :
    mapME g (ps.map (fun p => (keyStr p.1, toJ p.2))) = .ok (kvs.map pyPair) := by
  induction kvs generalizing ps with
  | nil => cases h; rfl
  | cons p r ihr =>
    obtain ⟨k', hk, v', hv, r', hr, rfl⟩ := (dumpPairs_cons_ok std ts cfg).1 h
    rw [dumpV_str] at hk; cases hk
    obtain ⟨ihp, ih⟩ := List.forall_mem_cons.1 ih
    exact mapME_ok_cons (hg p.1 _ p.2 (ihp v' hv)) (ihr r' ih hr)

/-- forms of value whose dump is visibly not JSON null, matching `nonNullTy`: an enum member may dump to null (its value can be
`None`); bytes never do, but `nonNullTy` does not list them, so they are left out here too -/
def nonNullVal : PyVal → Bool
  | .none => false
  | .enum _ _ _ => false
  | .bytes _ _ => false
  | _ => true

theorem dump_nonnull (v : PyVal) (hv : nonNullVal v = true) (d : DVal) (h : dumpV std false cfg v = .ok d) :
    toJ d ≠ .null := by
  cases v with
  | none | enum | bytes => cases hv
  | bool | int | float | str | timedelta | leaf =>
    simp only [dumpV_bool, dumpV_int, dumpV_float, dumpV_str, dumpV_timedelta, dumpV_leaf] at h
    cases h; simp
  | seq | tuple | ntuple | map | inst =>
    simp only [dumpV_seq, dumpV_tuple, dumpV_ntuple, dumpV_map, dumpV_inst] at h
    obtain ⟨_, _, rfl⟩ := Except.map_eq_ok.1 h
    simp [toJ_finishInst]

end

theorem dumpV_inst_plain (std : Std) (cfg : Option MetaCfg) (ci : ClassInfo) (hn : NoSkip (effMeta ci.cmeta cfg))
    (hnd : (ci.fields.map (·.name)).Nodup)
    (hpl : ∀ f ∈ ci.fields, f.isCatchAll = false ∧ f.dumpSkip = false ∧ f.skipIf = none)
    (kf : FieldInfo → S) (hk : ∀ f ∈ ci.fields, dumpKey (effMeta ci.cmeta cfg) f = .ok (kf f))
    (vals : List PyVal) (hl : vals.length = ci.fields.length) (d : DVal)
    (h : dumpV std false cfg (.inst ci ((ci.fields.map (·.name)).zip vals)) = .ok d) :
    ∃ ds, dumpList std false cfg vals = .ok ds ∧
      toJ d = .dict ((ci.fields.map kf).zip (ds.map toJ)
        ++ tagSfx (effMeta ci.cmeta cfg) (effMeta ci.cmeta cfg).tag) := by
  rw [dumpV_inst, hn.ts] at h
  obtain ⟨body, hb, rfl⟩ := Except.map_eq_ok.1 h
  obtain ⟨ds, hds, rfl⟩ := dumpFields_plain std cfg _ hn ci hnd hpl kf hk ci.fields vals body (fun _ h => h) hl hb
  refine ⟨ds, hds, ?_⟩
  rw [toJ_finishInst, List.map_zipWith, List.zip_eq_zipWith, List.zipWith_map_right]
  rfl

theorem find_tagSfx (eff : MetaCfg) (tg : S) (ks : List S) (js : List JVal) (h : tagKeyOf eff ∉ ks) :
    (ks.zip js ++ tagSfx eff (some tg)).find? (fun kv => kv.1 == tagKeyOf eff) = some (tagKeyOf eff, .str tg) := by
  have hnone : (ks.zip js).find? (fun kv => kv.1 == tagKeyOf eff) = none :=
    List.find?_eq_none.2 fun p hp heq => h (eq_of_beq heq ▸ (List.of_mem_zip hp).1)
  rw [List.find?_append, hnone]
  simp [tagSfx]

theorem pyKeyEq_str (a b : S) : pyKeyEq (.str a) (.str b) = (a == b) := by
  simp [pyKeyEq, PyVal.num?]

theorem foldl_dictInsert (kvs acc : List (S × PyVal)) (hnd : (acc.map (·.1) ++ kvs.map (·.1)).Nodup) :
    (kvs.map pyPair).foldl (fun a p => dictInsert a p.1 p.2) (acc.map pyPair) = (acc ++ kvs).map pyPair := by
  induction kvs generalizing acc with
  | nil => simp
  | cons p r ih =>
    have hfresh : p.1 ∉ acc.map (·.1) := fun hmem => (List.nodup_append.1 hnd).2.2 _ hmem _ (by simp) rfl
    have hnot : (acc.map pyPair).any (fun q => pyKeyEq q.1 (.str p.1)) = false := by
      rw [List.any_map, List.any_eq_false]
      exact fun q hq heq => hfresh (List.mem_map.2 ⟨q, hq, eq_of_beq ((pyKeyEq_str _ _).symm.trans heq)⟩)
    have hstep : dictInsert (acc.map pyPair) (.str p.1) p.2 = (acc ++ [p]).map pyPair := by
      rw [dictInsert, hnot]; simp
    rw [List.map_cons, List.foldl_cons, hstep, ih (acc ++ [p]) (by simpa using hnd)]
    simp

/-- string keys are hashable, and pairwise distinct ones stay where they are: the entries come back as they were -/
theorem mkMap_pyPair (k : MapKind) (kvs : List (S × PyVal)) (hnd : (kvs.map (·.1)).Nodup) :
    mkMap k (kvs.map pyPair) = .ok (.map k (kvs.map pyPair)) := by
  have hall : (kvs.map pyPair).all (fun p => p.1.hashable) = true := by
    simp [List.all_eq_true, PyVal.hashable]
  have hfold := foldl_dictInsert kvs [] (by simpa using hnd)
  simp only [List.map_nil, List.nil_append] at hfold
  simp only [mkMap, hall, if_true, hfold, pure, Except.pure]

end RT
end DW
