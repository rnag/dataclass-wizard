/- C19: every date-like type in the generator tree was registered as an import (an invariant of inference and of the
merges), and every name an annotation uses is bound. -/
import DW.Lemmas.C19

namespace DW.Gs
open DW DW.Str

theorem PrimsEs_append (G : List Imp) : ∀ (a b : List Elem), PrimsEs G (a ++ b) ↔ PrimsEs G a ∧ PrimsEs G b
  | [], b => by simp [PrimsEs]
  | e :: r, b => by simp [PrimsEs, PrimsEs_append G r b, and_assoc]

theorem PrimsEs_mem (G : List Imp) : ∀ (es : List Elem) (e : Elem), PrimsEs G es → e ∈ es → PrimsE G e
  | [], _, _, h => nomatch h
  | e0 :: r, e, hp, h => by
    rcases List.mem_cons.mp h with rfl | h
    · exact hp.1
    · exact PrimsEs_mem G r e hp.2 h

theorem PrimsEs_tcAppend (G : List Imp) (dedup : Bool) (tc : TC) (e : Elem) (h1 : PrimsEs G tc.1) (h2 : PrimsE G e) :
    PrimsEs G (tcAppend dedup tc e).1 := by
  unfold tcAppend
  split
  · exact h1
  · exact (PrimsEs_append G _ _).mpr ⟨h1, h2, trivial⟩

theorem PrimsEs_tcAppendAll (G : List Imp) (dedup : Bool) : ∀ (es : List Elem) (tc : TC), PrimsEs G tc.1 → PrimsEs G es →
    PrimsEs G (tcAppendAll dedup tc es).1
  | [], tc, h1, _ => by rw [tcAppendAll]; exact h1
  | e :: r, tc, h1, h2 => by
    rw [tcAppendAll]
    exact PrimsEs_tcAppendAll G dedup r _ (PrimsEs_tcAppend G dedup tc e h1 h2.1) h2.2

theorem PrimsFs_lookup (G : List Imp) : ∀ (fs : Fields) (k : S) (tc : TC), PrimsFs G fs → fieldsLookup k fs = some tc →
    PrimsEs G tc.1
  | [], _, _, _, h => nomatch h
  | (k0, es, o) :: r, k, tc, hp, h => by
    by_cases hk : k0 = k
    · simp [fieldsLookup, hk] at h; subst h; exact hp.1
    · simp [fieldsLookup, hk] at h; exact PrimsFs_lookup G r k tc hp.2 h

theorem PrimsFs_set (G : List Imp) : ∀ (fs : Fields) (k : S) (tc : TC), PrimsFs G fs → PrimsEs G tc.1 →
    PrimsFs G (fieldsSet k tc fs)
  | [], k, tc, _, h => by simp [fieldsSet, PrimsFs, h]
  | (k0, es, o) :: r, k, tc, hp, h => by
    by_cases hk : k0 = k
    · simp [fieldsSet, hk, PrimsFs, h, hp.2]
    · simp [fieldsSet, hk, PrimsFs, hp.1, PrimsFs_set G r k tc hp.2 h]

theorem PrimsFs_append (G : List Imp) : ∀ (a b : Fields), PrimsFs G (a ++ b) ↔ PrimsFs G a ∧ PrimsFs G b
  | [], b => by simp [PrimsFs]
  | (k, es, o) :: r, b => by simp [PrimsFs, PrimsFs_append G r b, and_assoc]

theorem PrimsFs_update (G : List Imp) (fs : Fields) (k : S) (f : TC → TC) (hp : PrimsFs G fs)
    (hf : ∀ tc, PrimsEs G tc.1 → PrimsEs G (f tc).1) : PrimsFs G (fieldsUpdate k f fs) := by
  unfold fieldsUpdate
  apply PrimsFs_set G fs k _ hp
  apply hf
  cases hl : fieldsLookup k fs with
  | none => trivial
  | some tc => exact PrimsFs_lookup G fs k tc hp hl

theorem PrimsD_firstCls (G : List Imp) : ∀ (es : List Elem) (m : DGen), PrimsEs G es → firstCls es = some m → PrimsD G m
  | [], _, _, h => nomatch h
  | .cls d :: r, m, hp, h => by
    cases h
    exact hp.1
  | .prim _ :: r, m, hp, h | .lst _ :: r, m, hp, h => PrimsD_firstCls G r m hp.2 h

theorem PrimsEs_replace (G : List Imp) (d : DGen) (hd : PrimsD G d) : ∀ (es : List Elem), PrimsEs G es →
    PrimsEs G (replaceFirstCls d es)
  | [], _ => by simp [replaceFirstCls, PrimsEs]
  | .cls c :: r, hp => by simp [replaceFirstCls, PrimsEs, PrimsE, hd, hp.2]
  | .prim _ :: r, hp | .lst _ :: r, hp => by
    simp [replaceFirstCls, PrimsEs, hp.1, PrimsEs_replace G d hd r hp.2]

mutual
theorem PrimsEs_mergeTC (G : List Imp) (dedup : Bool) : ∀ (oes : List Elem) (oopt : Bool) (s : TC),
    PrimsEs G s.1 → PrimsEs G oes → PrimsEs G (mergeTC dedup s oes oopt).1
  | [], oopt, s, h1, _ => by rw [mergeTC]; exact h1
  | [e], oopt, s, h1, h2 => by
    rw [mergeTC]
    exact PrimsEs_mergeOne G dedup e _ h1 h2.1
  | e :: e' :: r, oopt, s, h1, h2 => by
    rw [mergeTC]
    exact PrimsEs_tcAppendAll G dedup _ _ h1 h2
termination_by structural x => x
theorem PrimsEs_mergeOne (G : List Imp) (dedup : Bool) : ∀ (e : Elem) (s : TC),
    PrimsEs G s.1 → PrimsE G e → PrimsEs G (mergeOne dedup s e).1
  | .prim p, s, h1, h2 => by rw [mergeOne]; exact PrimsEs_tcAppend G dedup s _ h1 h2
  | .cls b, s, h1, h2 => by
    rw [mergeOne]
    split
    next a ha =>
      rw [soleCls_some ha] at h1
      exact ⟨PrimsD_mergeD G dedup b a h1.1 h2, trivial⟩
    next => exact PrimsEs_tcAppend G dedup s _ h1 h2
  | .lst b, s, h1, h2 => by
    rw [mergeOne]
    split
    next a ha =>
      rw [soleLst_some ha] at h1
      exact ⟨PrimsL_mergeL G dedup b a h1.1 h2, trivial⟩
    next => exact PrimsEs_tcAppend G dedup s _ h1 h2
termination_by structural x => x
theorem PrimsD_mergeD (G : List Imp) (dedup : Bool) : ∀ (b a : DGen), PrimsD G a → PrimsD G b → PrimsD G (mergeD dedup a b)
  | .mk _ _ bfs, .mk _ _ afs, h1, h2 => by
    rw [mergeD]
    exact PrimsFs_mergeFields G dedup bfs afs h1 h2
termination_by structural x => x
theorem PrimsFs_mergeFields (G : List Imp) (dedup : Bool) : ∀ (bfs : List (S × List Elem × Bool)) (afs : Fields),
    PrimsFs G afs → PrimsFs G bfs → PrimsFs G (mergeFields dedup afs bfs)
  | [], afs, h1, _ => by rw [mergeFields]; exact h1
  | (k, oes, oopt) :: rest, afs, h1, h2 => by
    rw [mergeFields]
    apply PrimsFs_mergeFields G dedup rest _ _ h2.2
    cases hl : fieldsLookup k afs with
    | none => exact (PrimsFs_append G _ _).mpr ⟨h1, h2.1, trivial⟩
    | some tc =>
      exact PrimsFs_set G afs k _ h1 (PrimsEs_mergeTC G dedup oes oopt tc (PrimsFs_lookup G afs k tc h1 hl) h2.1)
termination_by structural x => x
theorem PrimsL_mergeL (G : List Imp) (dedup : Bool) : ∀ (b a : LGen), PrimsL G a → PrimsL G b → PrimsL G (mergeL dedup a b)
  | .mk _ _ _ bes _, .mk _ _ _ aes _, h1, h2 => by
    rw [mergeL]
    exact PrimsEs_mergeLElems G dedup bes aes h1 h2
termination_by structural x => x
theorem PrimsEs_mergeLElems (G : List Imp) (dedup : Bool) : ∀ (bes aes : List Elem), PrimsEs G aes → PrimsEs G bes →
    PrimsEs G (mergeLElems dedup aes bes)
  | [], aes, h1, _ => by rw [mergeLElems]; exact h1
  | t :: rest, aes, h1, h2 => by
    rw [mergeLElems]
    exact PrimsEs_mergeLElems G dedup rest _ (PrimsEs_mergeLStep G dedup t aes h1 h2.1) h2.2
termination_by structural x => x
theorem PrimsEs_mergeLStep (G : List Imp) (dedup : Bool) : ∀ (e : Elem) (aes : List Elem), PrimsEs G aes → PrimsE G e →
    PrimsEs G (mergeLStep dedup aes e)
  | .cls b, aes, h1, h2 => by
    rw [mergeLStep]
    split
    next m hm =>
      exact PrimsEs_replace G _ (PrimsD_mergeD G dedup b m (PrimsD_firstCls G aes m h1 hm) h2) aes h1
    next => exact PrimsEs_tcAppend G dedup (aes, false) _ h1 h2
  | .lst l, aes, h1, h2 => by rw [mergeLStep]; exact PrimsEs_tcAppend G dedup (aes, false) _ h1 h2
  | .prim p, aes, h1, h2 => by rw [mergeLStep]; exact PrimsEs_tcAppend G dedup (aes, false) _ h1 h2
termination_by structural x => x
end

theorem PrimOK_of_scalar (G : List Imp) (std : GsStd) (force : Bool) (v : JVal)
    (hv : ∀ i ∈ docImps std force v, i ∈ G) : ∀ ps, scalarPrims std force v = some ps → ∀ p ∈ ps, PrimOK G p := by
  intro ps hps p hp i hi
  -- `cases hps` computes `scalarPrims`: only a string has types with imports, and `docImps` lists them
  cases v with
  | str s =>
    cases hps
    exact hv i (List.mem_flatMap.mpr ⟨p, hp, hi⟩)
  | null => cases hps
  | list _ | dict _ =>
    cases hps
    cases hp
  | bool _ | int _ | float _ =>
    cases hps
    cases List.mem_singleton.mp hp
    cases hi

theorem PrimsEs_map_prim (G : List Imp) : ∀ (ps : List Prim), (∀ p ∈ ps, PrimOK G p) → PrimsEs G (ps.map .prim)
  | [], _ => trivial
  | _ :: r, h => ⟨(List.forall_mem_cons.mp h).1, PrimsEs_map_prim G r (List.forall_mem_cons.mp h).2⟩

theorem PrimsEs_tcAppendScalar (G : List Imp) (tc : TC) (sp : Option (List Prim)) (h1 : PrimsEs G tc.1)
    (h2 : ∀ ps, sp = some ps → ∀ p ∈ ps, PrimOK G p) : PrimsEs G (tcAppendScalar tc sp).1 := by
  cases sp with
  | none => exact h1
  | some ps => exact PrimsEs_tcAppendAll G true _ tc h1 (PrimsEs_map_prim G ps (h2 ps rfl))

theorem PrimsFs_fieldScalar (G : List Imp) (std : GsStd) (fl : Flags) (k : S) (v : JVal) (acc : Fields)
    (hv : ∀ i ∈ docImps std fl.forceStrings v, i ∈ G) (hp : PrimsFs G acc) : PrimsFs G (fieldScalar std fl k v acc) :=
  PrimsFs_update G acc _ _ hp (fun tc h => PrimsEs_tcAppendScalar G tc _ h (PrimOK_of_scalar G std _ v hv))

theorem docImpsD_cons {G : List Imp} {std : GsStd} {force : Bool} {k : S} {v : JVal} {rest : List (S × JVal)}
    (h : ∀ i ∈ docImpsD std force ((k, v) :: rest), i ∈ G) :
    (∀ i ∈ docImps std force v, i ∈ G) ∧ (∀ i ∈ docImpsD std force rest, i ∈ G) :=
  List.forall_mem_append.mp h

theorem docImpsL_cons {G : List Imp} {std : GsStd} {force : Bool} {v : JVal} {rest : List JVal}
    (h : ∀ i ∈ docImpsL std force (v :: rest), i ∈ G) :
    (∀ i ∈ docImps std force v, i ∈ G) ∧ (∀ i ∈ docImpsL std force rest, i ∈ G) :=
  List.forall_mem_append.mp h

theorem infer_prims (G : List Imp) (std : GsStd) (fl : Flags) :
    (∀ lvl kvs acc, (∀ i ∈ docImpsD std fl.forceStrings kvs, i ∈ G) → PrimsFs G acc →
      PrimsFs G (inferFields std fl lvl kvs acc)) ∧
    (∀ name isRoot lvl xs acc, (∀ i ∈ docImpsL std fl.forceStrings xs, i ∈ G) → PrimsEs G acc.1 →
      PrimsEs G (inferElems std fl name isRoot lvl xs acc).1) :=
  infer_induct std fl
    (IF := fun _ kvs acc r => (∀ i ∈ docImpsD std fl.forceStrings kvs, i ∈ G) → PrimsFs G acc → PrimsFs G r)
    (IE := fun _ _ _ xs acc r => (∀ i ∈ docImpsL std fl.forceStrings xs, i ∈ G) → PrimsEs G acc.1 → PrimsEs G r.1)
    (f_nil := fun _ _ _ hp => hp)
    (f_dict := fun _ _ _ _ acc _ _ ih1 ih2 hi hp =>
      ih2 (docImpsD_cons hi).2 (PrimsFs_update G acc _ _ hp fun tc htc =>
        PrimsEs_tcAppend G _ tc _ htc (ih1 (docImpsD_cons hi).1 trivial)))
    (f_list := fun _ _ _ _ acc _ _ ih1 ih2 hi hp =>
      ih2 (docImpsD_cons hi).2 (PrimsFs_update G acc _ _ hp fun tc htc =>
        PrimsEs_tcAppend G _ tc _ htc (ih1 (docImpsD_cons hi).1 trivial)))
    (f_scalar := fun _ k v _ acc _ _ ih hi hp =>
      ih (docImpsD_cons hi).2 (PrimsFs_fieldScalar G std fl k v acc (docImpsD_cons hi).1 hp))
    (e_nil := fun _ _ _ _ _ hp => hp)
    (e_dict := fun _ _ _ _ _ acc _ _ ih1 ih2 hi hp =>
      ih2 (docImpsL_cons hi).2 (PrimsEs_mergeLStep G _ _ acc.1 hp
        (ih1 (docImpsL_cons hi).1 trivial)))
    (e_list := fun _ _ _ _ _ acc _ _ ih1 ih2 hi hp =>
      ih2 (docImpsL_cons hi).2 (PrimsEs_tcAppend G _ acc _ hp
        (ih1 (docImpsL_cons hi).1 trivial)))
    (e_scalar := fun _ _ _ v _ acc _ _ ih hi hp =>
      ih (docImpsL_cons hi).2 (PrimsEs_tcAppendScalar G acc _ hp (PrimOK_of_scalar G std _ v (docImpsL_cons hi).1)))

theorem rootExtras_prims (G : List Imp) (std : GsStd) (fl : Flags) : ∀ (xs : List JVal) (lvl : Nat),
    (∀ i ∈ docImpsL std fl.forceStrings xs, i ∈ G) → ∀ tc ∈ rootExtras std fl lvl xs, PrimsEs G tc.1
  | [], _, _ => fun _ h => nomatch h
  | x :: rest, lvl, hi => by
    obtain ⟨hv, hr⟩ := docImpsL_cons hi
    cases x using JVal.kindCases with
    | dict kvs => exact rootExtras_prims G std fl rest lvl hr
    | list ys =>
      exact List.forall_mem_cons.mpr ⟨⟨(infer_prims G std fl).2 _ false (lvl + 1) ys ([], false) hv trivial, trivial⟩,
        rootExtras_prims G std fl rest (lvl + 1) hr⟩
    | scalar v hs =>
      rw [rootExtras_scalar std fl lvl hs]
      exact List.forall_mem_cons.mpr ⟨PrimsEs_tcAppendScalar G _ _ trivial (PrimOK_of_scalar G std _ _ hv),
        rootExtras_prims G std fl rest lvl hr⟩

theorem numberFields_prims (G : List Imp) : ∀ (tcs : List TC) (i : Nat), (∀ tc ∈ tcs, PrimsEs G tc.1) →
    PrimsFs G (numberFields i tcs)
  | [], _, _ => trivial
  | _ :: r, i, h => ⟨(List.forall_mem_cons.mp h).1, numberFields_prims G r (i + 1) (List.forall_mem_cons.mp h).2⟩

theorem gsInfer_prims (G : List Imp) (std : GsStd) (fl : Flags) (doc : JVal) (s : Schema)
    (hi : ∀ i ∈ docImps std fl.forceStrings doc, i ∈ G) (h : gsInfer std fl doc = some s) : PrimsD G s.rootD := by
  cases doc with
  | dict kvs =>
    cases h
    exact (infer_prims G std fl).1 0 kvs [] hi trivial
  | list xs =>
    cases h
    simp only [Schema.rootD, PrimsD]
    have he := (infer_prims G std fl).2 (lgName std none 0) true 0 xs ([], false) hi trivial
    apply (PrimsFs_append G _ _).mpr
    refine ⟨?_, numberFields_prims G _ 1 (rootExtras_prims G std fl xs 0 hi)⟩
    cases hm : firstCls (inferElems std fl (lgName std none 0) true 0 xs ([], false)).1 with
    | none => trivial
    | some m => exact ⟨⟨PrimsD_firstCls G _ m he hm, trivial⟩, trivial⟩
  | null | bool _ | int _ | float _ | str _ => simp [gsInfer] at h

mutual
/-- the class references an element's annotation makes (through nested list generators) are among `N` -/
def RefE (N : List S) : Elem → Prop
  | .prim _ => True
  | .cls d => d.name ∈ N
  | .lst l => RefL N l
def RefEs (N : List S) : List Elem → Prop
  | [] => True
  | e :: r => RefE N e ∧ RefEs N r
def RefL (N : List S) : LGen → Prop
  | .mk _ _ _ es _ => RefEs N es
end

theorem usedNamesL_eq (ts : List TyExpr) : TyExpr.usedNamesL ts = ts.flatMap TyExpr.usedNames := by
  induction ts with
  | nil => rfl
  | cons t r ih => rw [TyExpr.usedNamesL, ih, List.flatMap_cons]

theorem refsL_eq (ts : List TyExpr) : TyExpr.refsL ts = ts.flatMap TyExpr.refs := by
  induction ts with
  | nil => rfl
  | cons t r ih => rw [TyExpr.refsL, ih, List.flatMap_cons]

theorem TyOK_none (G : List Imp) (N : List S) : TyOK G N .none := by simp [TyOK, TyExpr.usedNames, TyExpr.refs]

theorem TyOK_list (G : List Imp) (N : List S) (ts : List TyExpr) (h : ∀ t ∈ ts, TyOK G N t) :
    (∀ n ∈ TyExpr.usedNamesL ts, n ∈ builtinNames ∨ ∃ i ∈ G, i.pyName = n) ∧ (∀ n ∈ TyExpr.refsL ts, n ∈ N) := by
  rw [usedNamesL_eq, refsL_eq]
  constructor
  · intro n hn
    obtain ⟨t, ht, hn'⟩ := List.mem_flatMap.mp hn
    exact (h t ht).1 n hn'
  · intro n hn
    obtain ⟨t, ht, hn'⟩ := List.mem_flatMap.mp hn
    exact (h t ht).2 n hn'

theorem TyOK_bor (G : List Imp) (N : List S) (alts : List TyExpr) (h : ∀ t ∈ alts, TyOK G N t) : TyOK G N (.bor alts) :=
  TyOK_list G N alts h

theorem TyOK_app (G : List Imp) (N : List S) (hd : S) (args : List TyExpr)
    (hh : hd ∈ builtinNames ∨ ∃ i ∈ G, i.pyName = hd) (h : ∀ t ∈ args, TyOK G N t) : TyOK G N (.app hd args) := by
  refine ⟨fun n hn => ?_, (TyOK_list G N args h).2⟩
  simp only [TyExpr.usedNames, List.mem_cons] at hn
  rcases hn with rfl | hn
  · exact hh
  · exact (TyOK_list G N args h).1 n hn

theorem TyOK_nm (G : List Imp) (N : List S) (n : S) (hh : n ∈ builtinNames ∨ ∃ i ∈ G, i.pyName = n) : TyOK G N (.nm n) := by
  simp [TyOK, TyExpr.usedNames, TyExpr.refs, hh]

theorem TyOK_ref (G : List Imp) (N : List S) (n : S) (h : n ∈ N) : TyOK G N (.ref n) := by
  simp [TyOK, TyExpr.usedNames, TyExpr.refs, h]

theorem TyOK_prim (G : List Imp) (N : List S) (p : Prim) (hp : PrimOK G p) : TyOK G N (.nm p.pyName) := by
  apply TyOK_nm
  cases p with
  | str | float | int | bool => exact Or.inl (List.mem_map_of_mem (by simp))
  | date | datetime | time => exact Or.inr ⟨_, hp _ (List.mem_singleton_self _), rfl⟩

/- The `match`es of the next two are those of `strTC`, spelled the same way and with the hypotheses after them (a
hypothesis in scope would be abstracted into the matcher), so that they elaborate to the same matchers and the lemmas
apply to the unfolded `strTC`. -/
theorem TyOK_alts (G : List Imp) (N : List S) (alts : List TyExpr) :
    (∀ t ∈ alts, TyOK G N t) → TyOK G N (match alts with | [t] => t | _ => .bor alts) := by
  intro h
  split
  · exact h _ (by simp)
  · exact TyOK_bor G N _ h

theorem TyOK_union (G : List Imp) (N : List S) (ts : List TyExpr) :
    (∀ t ∈ ts, TyOK G N t) →
    (∀ i ∈ (match ts with | [t] => (t, []) | ts => (TyExpr.app "Union".toList ts, [Imp.union]) : TyExpr × List Imp).2, i ∈ G) →
    TyOK G N (match ts with | [t] => (t, []) | ts => (TyExpr.app "Union".toList ts, [Imp.union]) : TyExpr × List Imp).1 := by
  intro h hi
  split at hi
  · exact h _ (by simp)
  · exact TyOK_app G N _ _ (Or.inr ⟨.union, hi _ (by simp), rfl⟩) h

theorem strTC_cons_ok (G : List Imp) (N : List S) (exp : Bool) (e : Elem) (es : List Elem) (opt : Bool)
    (ha : (∀ i ∈ (strElem exp e).2, i ∈ G) → TyOK G N (strElem exp e).1)
    (hb : (∀ i ∈ (strElems exp es).2, i ∈ G) → ∀ t ∈ (strElems exp es).1, TyOK G N t)
    (hi : ∀ i ∈ (strTC exp (e :: es) opt).2, i ∈ G) : TyOK G N (strTC exp (e :: es) opt).1 := by
  have hparts : (∀ i ∈ (strElem exp e).2 ++ (strElems exp es).2, i ∈ G) →
      ∀ t ∈ (strElem exp e).1 :: (strElems exp es).1, TyOK G N t := fun h =>
    List.forall_mem_cons.mpr ⟨ha (List.forall_mem_append.mp h).1, hb (List.forall_mem_append.mp h).2⟩
  -- from here on `strTC exp (e :: es) opt` is read up to unfolding: rewriting the goal and `hi` with its equation costs
  -- several times the rest of the proof
  cases exp with
  | true =>
    apply TyOK_alts
    intro t ht
    rcases List.mem_append.mp ht with ht | ht
    · exact hparts hi t ht
    · cases opt <;> simp at ht
      subst ht; exact TyOK_none G N
  | false =>
    cases opt with
    | false =>
      obtain ⟨hip, hiu⟩ := List.forall_mem_append.mp hi
      exact TyOK_union G N _ (hparts hip) hiu
    | true =>
      obtain ⟨hipu, hio⟩ := List.forall_mem_append.mp hi
      obtain ⟨hip, hiu⟩ := List.forall_mem_append.mp hipu
      exact TyOK_app G N _ _ (Or.inr ⟨.optional, hio _ (List.mem_singleton_self _), rfl⟩)
        (List.forall_mem_singleton.mpr (TyOK_union G N _ (hparts hip) hiu))

/- Here too `strTC`, `strElems` and `strElem` are read up to unfolding. -/
mutual
theorem strTC_ok (G : List Imp) (N : List S) (exp : Bool) : ∀ (es : List Elem) (opt : Bool),
    PrimsEs G es → RefEs N es → (∀ i ∈ (strTC exp es opt).2, i ∈ G) → TyOK G N (strTC exp es opt).1
  | [], _, _, _, hi => TyOK_nm G N _ (Or.inr ⟨.any, hi _ (List.mem_singleton_self _), rfl⟩)
  | e :: es, opt, hp, hr, hi =>
    strTC_cons_ok G N exp e es opt (strElem_ok G N exp e hp.1 hr.1) (strElems_ok G N exp es hp.2 hr.2) hi
theorem strElems_ok (G : List Imp) (N : List S) (exp : Bool) : ∀ (es : List Elem),
    PrimsEs G es → RefEs N es → (∀ i ∈ (strElems exp es).2, i ∈ G) → ∀ t ∈ (strElems exp es).1, TyOK G N t
  | [], _, _, _ => fun _ ht => nomatch ht
  | e :: es, hp, hr, hi =>
    List.forall_mem_cons.mpr ⟨strElem_ok G N exp e hp.1 hr.1 (List.forall_mem_append.mp hi).1,
      strElems_ok G N exp es hp.2 hr.2 (List.forall_mem_append.mp hi).2⟩
theorem strElem_ok (G : List Imp) (N : List S) (exp : Bool) : ∀ (e : Elem),
    PrimsE G e → RefE N e → (∀ i ∈ (strElem exp e).2, i ∈ G) → TyOK G N (strElem exp e).1
  | .prim p, hp, _, _ => TyOK_prim G N p hp
  | .cls (.mk n _ _), _, hr, _ => TyOK_ref G N n hr
  | .lst (.mk d c n es opt), hp, hr, hi => by
    cases es with
    | nil =>
      cases exp with
      | true => exact TyOK_nm G N _ (Or.inl (List.mem_map_of_mem (by simp)))
      | false => exact TyOK_nm G N _ (Or.inr ⟨.list, hi _ (List.mem_singleton_self _), rfl⟩)
    | cons e0 r0 =>
      cases exp with
      | true =>
        exact TyOK_app G N _ _ (Or.inl (List.mem_map_of_mem (by simp)))
          (List.forall_mem_singleton.mpr (strTC_ok G N true (e0 :: r0) opt hp hr hi))
      | false =>
        obtain ⟨hinner, hil⟩ := List.forall_mem_append.mp hi
        exact TyOK_app G N _ _ (Or.inr ⟨.list, hil _ (List.mem_singleton_self _), rfl⟩)
          (List.forall_mem_singleton.mpr (strTC_ok G N false (e0 :: r0) opt hp hr hinner))
end

theorem classesElems_eq (exp : Bool) : ∀ (es : List Elem),
    classesElems exp es = (es.flatMap fun e => (elemClasses exp e).1, es.flatMap fun e => (elemClasses exp e).2)
  | [] => rfl
  | .prim _ :: es => classesElems_eq exp es
  | .cls d :: es => by rw [classesElems, classesElems_eq exp es]; rfl
  | .lst l :: es => by rw [classesElems, classesElems_eq exp es]; rfl

theorem mem_classesElems (exp : Bool) (c : ClassAst) : ∀ (es : List Elem),
    c ∈ (classesElems exp es).1 ↔ ∃ e ∈ es, c ∈ (elemClasses exp e).1 :=
  fun es => by rw [classesElems_eq]; exact List.mem_flatMap

theorem mem_classesElems_imp (exp : Bool) (i : Imp) : ∀ (es : List Elem),
    i ∈ (classesElems exp es).2 ↔ ∃ e ∈ es, i ∈ (elemClasses exp e).2 :=
  fun es => by rw [classesElems_eq]; exact List.mem_flatMap

theorem mem_classesLModel (exp : Bool) (c : ClassAst) : ∀ (es : List Elem),
    c ∈ (classesLModel exp es).1 ↔ ∃ d, Elem.cls d ∈ es ∧ c ∈ (classesD exp d).1
  | [] => by simp [classesLModel]
  | .prim _ :: es | .cls _ :: es | .lst _ :: es => by simp [classesLModel, mem_classesLModel exp c es]

theorem mem_classesLLists (exp : Bool) (c : ClassAst) : ∀ (es : List Elem),
    c ∈ (classesLLists exp es).1 ↔ ∃ l, Elem.lst l ∈ es ∧ c ∈ (classesL exp l).1
  | [] => by simp [classesLLists]
  | .prim _ :: es | .cls _ :: es | .lst _ :: es => by simp [classesLLists, mem_classesLLists exp c es]

theorem mem_classesL (exp : Bool) (c : ClassAst) (l : LGen) :
    c ∈ (classesL exp l).1 ↔ ∃ e ∈ l.elems, c ∈ (elemClasses exp e).1 := by
  cases l with
  | mk d cn n es o =>
    simp only [classesL, LGen.elems, List.mem_append, mem_classesLModel, mem_classesLLists]
    constructor
    · rintro (⟨d, hd, hc⟩ | ⟨l, hl, hc⟩)
      · exact ⟨_, hd, hc⟩
      · exact ⟨_, hl, hc⟩
    · rintro ⟨e, he, hc⟩
      cases e with
      | prim p => cases hc
      | cls d => exact Or.inl ⟨d, he, hc⟩
      | lst l => exact Or.inr ⟨l, he, hc⟩

theorem classesD_head (exp : Bool) (d : DGen) : ∃ c ∈ (classesD exp d).1, c.name = d.name := by
  cases d with
  | mk n r fs =>
    refine ⟨{ name := n, isRoot := r, fields := (classFields exp fs).1 }, ?_, rfl⟩
    simp [classesD]

mutual
theorem refE_of (exp : Bool) (N : List S) : ∀ (e : Elem), (∀ c ∈ (elemClasses exp e).1, c.name ∈ N) → RefE N e
  | .prim _, _ => trivial
  | .cls d, h => by
    obtain ⟨c, hc, hn⟩ := classesD_head exp d
    rw [RefE, ← hn]
    exact h c hc
  | .lst (.mk _ _ _ es _), h =>
    refEs_of exp N es fun e he c hc => h c ((mem_classesL exp c _).mpr ⟨e, he, hc⟩)
theorem refEs_of (exp : Bool) (N : List S) : ∀ (es : List Elem), (∀ e ∈ es, ∀ c ∈ (elemClasses exp e).1, c.name ∈ N) → RefEs N es
  | [], _ => trivial
  | e :: r, h => ⟨refE_of exp N e (List.forall_mem_cons.mp h).1, refEs_of exp N r (List.forall_mem_cons.mp h).2⟩
end

/-- what `repr` emitted (classes, imports) is well scoped, given that its class names are in `N` and its imports
in `G`; closed under the concatenation every `classes*` function is built from -/
abbrev EmitOK (G : List Imp) (N : List S) (out : List ClassAst × List Imp) : Prop :=
  (∀ c ∈ out.1, c.name ∈ N) → (∀ i ∈ out.2, i ∈ G) → ∀ c ∈ out.1, ClassOK G N c

theorem EmitOK_nil (G : List Imp) (N : List S) : EmitOK G N ([], []) := fun _ _ _ hc => nomatch hc

theorem EmitOK_append {G : List Imp} {N : List S} {a b : List ClassAst × List Imp} (ha : EmitOK G N a)
    (hb : EmitOK G N b) : EmitOK G N (a.1 ++ b.1, a.2 ++ b.2) := fun hn hi =>
  List.forall_mem_append.mpr ⟨ha (List.forall_mem_append.mp hn).1 (List.forall_mem_append.mp hi).1,
    hb (List.forall_mem_append.mp hn).2 (List.forall_mem_append.mp hi).2⟩

theorem classes_ok (G : List Imp) (N : List S) (exp : Bool) :
    (∀ d, PrimsD G d → EmitOK G N (classesD exp d)) ∧
    (∀ fs, PrimsFs G fs → (∀ c ∈ (classFields exp fs).2.1, c.name ∈ N) → (∀ i ∈ (classFields exp fs).2.2, i ∈ G) →
      (∀ f ∈ (classFields exp fs).1, TyOK G N f.2) ∧ (∀ c ∈ (classFields exp fs).2.1, ClassOK G N c)) ∧
    (∀ es, PrimsEs G es → EmitOK G N (classesElems exp es)) ∧ (∀ l, PrimsL G l → EmitOK G N (classesL exp l)) ∧
    (∀ es, PrimsEs G es → EmitOK G N (classesLLists exp es)) ∧
    (∀ es, PrimsEs G es → EmitOK G N (classesLModel exp es)) := by
  -- the conjuncts follow the motives of `classesD.mutual_induct`: `classesLLists` before `classesLModel`, unlike the definitions
  -- the cases in the order of `classesD.mutual_induct`: `classesD`, `classesL`,
  apply classesD.mutual_induct exp
  · intro n r fs ih hp hn hi
    obtain ⟨hiroot, hibody⟩ := List.forall_mem_append.mp hi
    have hf := ih hp (List.forall_mem_cons.mp hn).2 hibody
    exact List.forall_mem_cons.mpr ⟨⟨hf.1, fun (hr : r = true) => hiroot _ (by simp [hr])⟩, hf.2⟩
  · exact fun d cn n es o ihm ihl hp => EmitOK_append (ihm hp) (ihl hp)
  -- two of `classFields`,
  · intro _ _ _
    simp [classFields]
  · intro k es opt rest ihes ihrest hp hn hi
    obtain ⟨hnes, hnrest⟩ := List.forall_mem_append.mp hn
    obtain ⟨hi', hirest⟩ := List.forall_mem_append.mp hi
    obtain ⟨hity, hies⟩ := List.forall_mem_append.mp hi'
    have hrest := ihrest hp.2 hnrest hirest
    have hty : TyOK G N (strTC exp es opt).1 := by
      apply strTC_ok G N exp es opt hp.1 _ hity
      apply refEs_of exp N es
      intro e he c hc
      exact hnes c ((mem_classesElems exp c es).mpr ⟨e, he, hc⟩)
    exact ⟨List.forall_mem_cons.mpr ⟨hty, hrest.1⟩, List.forall_mem_append.mpr ⟨ihes hp.1 hnes hies, hrest.2⟩⟩
  -- four each of `classesElems`, `classesLLists`, `classesLModel`: concatenation over the elements they select
  · exact fun _ => EmitOK_nil G N
  · exact fun p es ih hp => ih hp.2
  · exact fun d es ihd ih hp => EmitOK_append (ihd hp.1) (ih hp.2)
  · exact fun l es ihl ih hp => EmitOK_append (ihl hp.1) (ih hp.2)
  · exact fun _ => EmitOK_nil G N
  · exact fun l es ihl ih hp => EmitOK_append (ihl hp.1) (ih hp.2)
  · exact fun d es ih hp => ih hp.2
  · exact fun p es ih hp => ih hp.2
  · exact fun _ => EmitOK_nil G N
  · exact fun d es ihd ih hp => EmitOK_append (ihd hp.1) (ih hp.2)
  · exact fun l es ih hp => ih hp.2
  · exact fun p es ih hp => ih hp.2

theorem classesD_ok (G : List Imp) (N : List S) (exp : Bool) : ∀ (d : DGen), PrimsD G d →
    (∀ c ∈ (classesD exp d).1, c.name ∈ N) → (∀ i ∈ (classesD exp d).2, i ∈ G) →
    ∀ c ∈ (classesD exp d).1, ClassOK G N c := (classes_ok G N exp).1
theorem classFields_ok (G : List Imp) (N : List S) (exp : Bool) : ∀ (fs : List (S × List Elem × Bool)), PrimsFs G fs →
    (∀ c ∈ (classFields exp fs).2.1, c.name ∈ N) → (∀ i ∈ (classFields exp fs).2.2, i ∈ G) →
    (∀ f ∈ (classFields exp fs).1, TyOK G N f.2) ∧ (∀ c ∈ (classFields exp fs).2.1, ClassOK G N c) :=
  (classes_ok G N exp).2.1
theorem classesElems_ok (G : List Imp) (N : List S) (exp : Bool) : ∀ (es : List Elem), PrimsEs G es →
    (∀ c ∈ (classesElems exp es).1, c.name ∈ N) → (∀ i ∈ (classesElems exp es).2, i ∈ G) →
    ∀ c ∈ (classesElems exp es).1, ClassOK G N c := (classes_ok G N exp).2.2.1
theorem classesL_ok (G : List Imp) (N : List S) (exp : Bool) : ∀ (l : LGen), PrimsL G l →
    (∀ c ∈ (classesL exp l).1, c.name ∈ N) → (∀ i ∈ (classesL exp l).2, i ∈ G) →
    ∀ c ∈ (classesL exp l).1, ClassOK G N c := (classes_ok G N exp).2.2.2.1
theorem classesLModel_ok (G : List Imp) (N : List S) (exp : Bool) : ∀ (es : List Elem), PrimsEs G es →
    (∀ c ∈ (classesLModel exp es).1, c.name ∈ N) → (∀ i ∈ (classesLModel exp es).2, i ∈ G) →
    ∀ c ∈ (classesLModel exp es).1, ClassOK G N c := (classes_ok G N exp).2.2.2.2.2
theorem classesLLists_ok (G : List Imp) (N : List S) (exp : Bool) : ∀ (es : List Elem), PrimsEs G es →
    (∀ c ∈ (classesLLists exp es).1, c.name ∈ N) → (∀ i ∈ (classesLLists exp es).2, i ∈ G) →
    ∀ c ∈ (classesLLists exp es).1, ClassOK G N c := (classes_ok G N exp).2.2.2.2.1

theorem importGroup_names (reg : List Imp) (m : String) (xs : List Imp) :
    (importGroup reg m xs).flatMap (·.2) = (xs.filter fun i => reg.contains i).map Imp.pyName := by
  unfold importGroup
  split
  next h => rw [h]; rfl
  next => simp

theorem importLines_names (reg : List Imp) : (importLines reg).flatMap (·.2) =
    ([.future, .dataclass, .date, .datetime, .time, .any, .list, .optional, .union, .jsonWizard].filter
      fun i => reg.contains i).map Imp.pyName := by
  simp only [importLines, List.flatMap_append, importGroup_names, ← List.map_append, ← List.filter_append]
  rfl

theorem importLines_mem (reg : List Imp) (i : Imp) (h : i ∈ reg) :
    i.pyName ∈ (importLines reg).flatMap (·.2) := by
  rw [importLines_names]
  exact List.mem_map_of_mem (List.mem_filter.mpr ⟨by cases i <;> decide, by simpa using h⟩)

theorem reservedNames_eq : reservedNames =
    [Imp.future, .dataclass, .date, .datetime, .time, .any, .list, .optional, .union, .jsonWizard].map Imp.pyName ++
      builtinNames := rfl

theorem importLines_reserved (reg : List Imp) (n : S) (h : n ∈ (importLines reg).flatMap (·.2)) : n ∈ reservedNames := by
  rw [importLines_names] at h
  obtain ⟨i, hi, rfl⟩ := List.mem_map.mp h
  rw [reservedNames_eq]
  exact List.mem_append_left _ (List.mem_map_of_mem (List.mem_filter.mp hi).1)

theorem gsModule_some {std : GsStd} {fl : Flags} {doc : JVal} {m : ModuleAst} (h : gsModule std fl doc = some m) :
    ∃ s reg, gsInfer std fl doc = some s ∧
      m = { imports := importLines reg, classes := (classesD fl.experimental s.rootD).1 } ∧ Imp.dataclass ∈ reg ∧
      (∀ i ∈ docImps std fl.forceStrings doc, i ∈ reg) ∧ ∀ i ∈ (classesD fl.experimental s.rootD).2, i ∈ reg := by
  unfold gsModule gsRun at h
  simp only at h
  split at h
  · cases h
  · next s hs =>
    refine ⟨s, _, hs, (Option.some.inj h).symm, ?_, fun i hi => ?_, fun i hi => List.mem_append_right _ hi⟩
    · simp
    · exact List.mem_append_left _ (List.mem_append_right _ hi)

theorem find_by_name_of_inj : ∀ (l : List ClassAst) (c : ClassAst),
    (∀ x ∈ l, ∀ y ∈ l, x.name = y.name → x = y) → c ∈ l → l.find? (fun x => x.name == c.name) = some c
  | [], _, _, h => nomatch h
  | x :: r, c, hinj, h => by
    by_cases hx : x.name = c.name
    · obtain rfl := hinj x List.mem_cons_self c h hx
      simp
    · rw [List.find?_cons_of_neg (by simpa using hx)]
      exact find_by_name_of_inj r c (fun a ha b hb => hinj a (List.mem_cons_of_mem _ ha) b (List.mem_cons_of_mem _ hb))
        ((List.mem_cons.mp h).resolve_left fun hc => hx (hc ▸ rfl))

theorem nodupB_inj : ∀ (l : List ClassAst), nodupB (l.map (·.name)) = true →
    ∀ x ∈ l, ∀ y ∈ l, x.name = y.name → x = y
  | [], _, _, hx, _, _, _ => nomatch hx
  | a :: r, hnd, x, hx, y, hy, hxy => by
    simp only [List.map, nodupB, Bool.and_eq_true, Bool.not_eq_true', List.contains_eq_mem, decide_eq_false_iff_not,
      List.mem_map, not_exists, not_and] at hnd
    obtain ⟨hhead, htail⟩ := hnd
    rcases List.mem_cons.mp hx with rfl | hxr
    · rcases List.mem_cons.mp hy with rfl | hyr
      · rfl
      · exact absurd hxy.symm (hhead y hyr)
    · rcases List.mem_cons.mp hy with rfl | hyr
      · exact absurd hxy (hhead x hxr)
      · exact nodupB_inj r htail x hxr y hyr hxy

end DW.Gs
