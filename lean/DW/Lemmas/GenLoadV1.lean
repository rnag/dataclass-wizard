/-
Lemmas about the v1 load-function skeleton model `DW/Model/GenLoadV1.lean`: the skeleton is well scoped under Python's rule for
every class, provided each value expression reads only `v1` and outside names and the outside names the skeleton uses are not bound
by the body (`wellScoped_in`, `wellScoped_all`); the same with premises about the generator's inputs only (`wellScoped_inputs`) and as
the Boolean test the driver evaluates (`premisesB_sound`); field variables are fresh, and the constructor is handed distinct variables,
one for every required field (`fieldVar_fresh`, `ctorVars_nodup`, `ctorVars_complete`).
-/
import DW.Model.GenLoadV1
import DW.Lemmas.Names

namespace DW.GenLoadV1
open DW.Names
open DW.GenLoad (Part Scope Flow t asNames)

/-- `n` may be read: an assigned local, or an outside name that is no local.  It asks of an assigned name that it is a local; every
local the template reads is one by `LocalsOk`, so the proofs never need that everything assigned is a local. -/
def Rd (sc : Scope) (asg : List S) (n : S) : Prop := (n ∈ asg ∧ n ∈ sc.locals) ∨ (n ∉ sc.locals ∧ n ∈ sc.outer)

theorem rd_of (sc : Scope) (asg : List S) (n : S) (h : Rd sc asg n) : rd sc asg n = true := by
  rcases h with ⟨h1, h2⟩ | ⟨h1, h2⟩ <;> simp [rd, h1, h2]

theorem rds_of (sc : Scope) (asg ns : List S) (h : ∀ n ∈ ns, Rd sc asg n) : rds sc asg ns = true :=
  List.all_eq_true.2 fun n hn => rd_of sc asg n (h n hn)

theorem Rd.mono {sc : Scope} {a b : List S} {n : S} (h : Rd sc a n) (hab : ∀ x ∈ a, x ∈ b) : Rd sc b n :=
  h.imp_left (And.imp_left (hab n))

theorem Rd.of_mem {sc : Scope} {asg : List S} {n : S} (hl : n ∈ sc.locals) (h : n ∈ asg) : Rd sc asg n := Or.inl ⟨h, hl⟩

theorem Rd.nil {sc : Scope} {asg : List S} : ∀ n ∈ ([] : List S), Rd sc asg n := fun _ h => nomatch h

theorem Rd.cons {sc : Scope} {asg r : List S} {a : S} (h1 : Rd sc asg a) (h2 : ∀ n ∈ r, Rd sc asg n) : ∀ n ∈ a :: r, Rd sc asg n :=
  List.forall_mem_cons.2 ⟨h1, h2⟩

def PartsOk (sc : Scope) : List S → List Part → Prop
  | _, [] => True
  | asg, q :: r => (∀ n ∈ q.reads, Rd sc asg n) ∧ PartsOk sc (q.writes ++ asg) r

theorem checkParts_ok (sc : Scope) (ps : List Part) (asg : List S) (h : PartsOk sc asg ps) :
    ∃ a, checkParts sc asg ps = some a ∧ ∀ n, n ∈ partsBinds ps ∨ n ∈ asg → n ∈ a := by
  induction ps generalizing asg with
  | nil => exact ⟨asg, rfl, fun n h => h.elim (fun h => nomatch h) id⟩
  | cons q r ih =>
    obtain ⟨a, ha, hm⟩ := ih (q.writes ++ asg) h.2
    refine ⟨a, by simp only [checkParts, rds_of sc asg q.reads h.1, if_true, ha], fun n hn => hm n ?_⟩
    rw [partsBinds, List.flatMap_cons, List.mem_append, or_assoc] at hn
    rw [List.mem_append]
    exact or_left_comm.1 hn

def LinesOk (sc : Scope) : List S → List S0 → Prop
  | _, [] => True
  | asg, .line ps :: r => PartsOk sc asg ps ∧ ∀ a, (∀ n, n ∈ partsBinds ps ∨ n ∈ asg → n ∈ a) → LinesOk sc a r
  | asg, .exit _ rs :: _ => ∀ n ∈ rs, Rd sc asg n

theorem checkL0_ok (sc : Scope) (body : List S0) (asg : List S) (h : LinesOk sc asg body) :
    ∃ f, checkL0 sc asg body = some f ∧ ∀ a, f = some a → ∀ n ∈ asg, n ∈ a := by
  induction body generalizing asg with
  | nil => exact ⟨some asg, rfl, fun a h n hn => by cases h; exact hn⟩
  | cons s r ih =>
    cases s with
    | line ps =>
      obtain ⟨a, ha, hm⟩ := checkParts_ok sc ps asg h.1
      obtain ⟨f, hf, hg⟩ := ih a (h.2 a hm)
      exact ⟨f, by simp only [checkL0, S0.check, ha, Option.map_some, hf], fun b hb n hn => hg b hb n (hm n (Or.inr hn))⟩
    | exit _ rs => exact ⟨none, by simp only [checkL0, S0.check, rds_of sc asg rs h, if_true], fun a h => nomatch h⟩

theorem checkL1_append (sc : Scope) (a b : List S1) (asg : List S) :
    checkL1 sc asg (a ++ b) = (match checkL1 sc asg a with
      | none => none
      | some none => some none
      | some (some x) => checkL1 sc x b) := by
  induction a generalizing asg with
  | nil => simp [checkL1]
  | cons s r ih =>
    simp only [List.cons_append, checkL1]
    rcases s.check sc asg with _ | _ | x
    · rfl
    · rfl
    · exact ih x

theorem checkL2_append (sc : Scope) (a b : List S2) (asg : List S) :
    checkL2 sc asg (a ++ b) = (match checkL2 sc asg a with
      | none => none
      | some none => some none
      | some (some x) => checkL2 sc x b) := by
  induction a generalizing asg with
  | nil => simp [checkL2]
  | cons s r ih =>
    simp only [List.cons_append, checkL2]
    rcases s.check sc asg with _ | _ | x
    · rfl
    · rfl
    · exact ih x

/-- the check `f` succeeded and falls through, and `w` and `asg` are assigned behind it (not to be read as `S0.binds` … `bindsAll`,
the names a statement binds anywhere) -/
def Binds (f : Option Flow) (w asg : List S) : Prop := ∃ a, f = some (some a) ∧ ∀ n, n ∈ w ∨ n ∈ asg → n ∈ a

theorem ifc_ok (sc : Scope) (c : S) (cr cw cb : List S) (body : List S0) (asg : List S) (hc : ∀ n ∈ cr, Rd sc asg n)
    (h : LinesOk sc (cw ++ asg) body) : Binds (S1.check sc asg (.ifc c cr cw cb body)) cw asg := by
  obtain ⟨f, hf, hg⟩ := checkL0_ok sc body (cw ++ asg) h
  cases f with
  | none => exact ⟨cw ++ asg, by simp only [S1.check, rds_of sc asg cr hc, if_true, hf, Flow.meet], fun n => List.mem_append.2⟩
  | some a =>
    refine ⟨a.filter (cw ++ asg).contains, by simp only [S1.check, rds_of sc asg cr hc, if_true, hf, Flow.meet], fun n h => ?_⟩
    have h := List.mem_append.2 h
    exact List.mem_filter.2 ⟨hg a rfl n h, by simpa using h⟩

theorem s2_line_ok (sc : Scope) (ps : List Part) (asg : List S) (h : PartsOk sc asg ps) :
    Binds (checkL2 sc asg [.s1 (.s0 (.line ps))]) (partsBinds ps) asg := by
  obtain ⟨a, c, hm⟩ := checkParts_ok sc ps asg h
  exact ⟨a, by simp only [checkL2, S2.check, S1.check, S0.check, c, Option.map_some], hm⟩

theorem opt_line_ok (sc : Scope) (b : Bool) (ps : List Part) (asg : List S) (h : b = true → PartsOk sc asg ps) :
    Binds (checkL2 sc asg (if b then [.s1 (.s0 (.line ps))] else [])) (if b then partsBinds ps else []) asg := by
  cases b with
  | false => exact ⟨asg, rfl, by simp⟩
  | true => exact s2_line_ok sc ps asg (h rfl)

theorem Binds.append {sc : Scope} {xs ys : List S2} {asg w1 w2 : List S} (h1 : Binds (checkL2 sc asg xs) w1 asg)
    (h2 : ∀ a, (∀ n, n ∈ w1 ∨ n ∈ asg → n ∈ a) → Binds (checkL2 sc a ys) w2 a) :
    Binds (checkL2 sc asg (xs ++ ys)) (w2 ++ w1) asg := by
  obtain ⟨a, ha, hm⟩ := h1
  obtain ⟨b, hb, hm'⟩ := h2 a hm
  refine ⟨b, by simp only [checkL2_append, ha, hb], fun n hn => hm' n ?_⟩
  rw [List.mem_append, or_assoc] at hn
  exact hn.imp_right (hm n)

theorem Binds.s1 {sc : Scope} {s : S1} {w asg : List S} (h : Binds (s.check sc asg) w asg) : Binds (checkL2 sc asg [.s1 s]) w asg := by
  obtain ⟨a, ha, hm⟩ := h
  exact ⟨a, by simp only [checkL2, S2.check, ha], hm⟩

theorem Binds.sub {f : Option Flow} {w asg : List S} (h : Binds f w asg) : ∃ a, f = some (some a) ∧ ∀ n ∈ asg, n ∈ a := by
  obtain ⟨a, ha, hm⟩ := h
  exact ⟨a, ha, fun n hn => hm n (Or.inr hn)⟩

theorem line_if_ok (sc : Scope) (ps qs : List Part) (c : S) (cr cw cb asg : List S) (h1 : PartsOk sc asg ps)
    (h2 : ∀ a, (∀ n, n ∈ partsBinds ps ∨ n ∈ asg → n ∈ a) → (∀ n ∈ cr, Rd sc a n) ∧ PartsOk sc (cw ++ a) qs) :
    ∃ a, checkL1 sc asg [.s0 (.line ps), .ifc c cr cw cb [.line qs]] = some (some a) ∧ ∀ n ∈ asg, n ∈ a := by
  obtain ⟨a1, c1, m1⟩ := checkParts_ok sc ps asg h1
  obtain ⟨a2, c2, m2⟩ := ifc_ok sc c cr cw cb [.line qs] a1 (h2 a1 m1).1 ⟨(h2 a1 m1).2, fun _ _ => trivial⟩
  refine ⟨a2, ?_, fun n hn => m2 n (Or.inr (m1 n (Or.inr hn)))⟩
  simp only [checkL1, S1.check.eq_1, S0.check, c1, Option.map_some, c2]

/-- the names the body binds are locals of `sc`; for the scope of the generated function this is proved (`localsOk_genScope`), not
assumed -/
structure LocalsOk (sc : Scope) (g : VIn) : Prop where
  o : t "o" ∈ sc.locals
  kw : g.hasDefaults = true → t "init_kwargs" ∈ sc.locals
  i : g.preAssign = true → t "i" ∈ sc.locals
  field : g.fields ≠ [] → t "field" ∈ sc.locals
  v1 : g.fields ≠ [] → t "v1" ∈ sc.locals
  e : g.fields ≠ [] → t "e" ∈ sc.locals
  fv : ∀ f ∈ g.fields, f.hasDefault = false → fieldVar f.name ∈ sc.locals
  ew : ∀ f ∈ g.fields, ∀ n ∈ f.exprWrites, n ∈ sc.locals
  ca : ∀ n idx, g.catchAll = .required n idx → fieldVar n ∈ sc.locals
  ek : g.catchAll = .none → g.unknown ≠ .none → t "extra_keys" ∈ sc.locals

def OuterOk (sc : Scope) (g : VIn) : Prop := ∀ n ∈ skeletonOuter g, n ∉ sc.locals ∧ n ∈ sc.outer

def ExprsOk (sc : Scope) (g : VIn) : Prop := ∀ f ∈ g.fields, ∀ n ∈ f.exprReads, n = t "v1" ∨ (n ∉ sc.locals ∧ n ∈ sc.outer)

/-- no field's chain of alternative keys or paths is empty (the library's alias and path tuples never are) -/
def LookupsOk (g : VIn) : Prop := ∀ f ∈ g.fields, f.lookup ≠ .anyOf [] ∧ f.lookup ≠ .pathAnyOf []

theorem outer_rd {sc : Scope} {g : VIn} (ho : OuterOk sc g) (asg : List S) (n : S) (h : n ∈ skeletonOuter g) : Rd sc asg n :=
  Or.inr (ho n h)

theorem mem_outer_fixed (g : VIn) (n : S)
    (h : n ∈ [t "cls", t "fields", t "MISSING", t "re_raise", t "raise_missing_fields", t "locals", t "Exception"]) :
    n ∈ skeletonOuter g := by
  simp only [skeletonOuter, List.mem_append]
  exact Or.inl (Or.inl (Or.inl (Or.inl h)))

theorem mem_outer_safe_get (g : VIn) (f : VField) (hf : f ∈ g.fields) (hp : usesPath f = true) : t "safe_get" ∈ skeletonOuter g := by
  simp only [skeletonOuter, List.mem_append]
  exact Or.inr (by simp [List.any_eq_true.2 ⟨f, hf, hp⟩])

theorem mem_outer_pre (g : VIn) (h : g.preFromDict = true) : t "__pre_from_dict__" ∈ skeletonOuter g := by
  simp only [skeletonOuter, List.mem_append]
  exact Or.inl (Or.inl (Or.inl (Or.inr (by simp [h]))))

theorem mem_outer_count (g : VIn) (h : (g.hasCatchAll || g.unknown != .none) = true) (n : S) (hn : n ∈ [t "aliases", t "len"]) :
    n ∈ skeletonOuter g := by
  simp only [skeletonOuter, List.mem_append]
  exact Or.inl (Or.inl (Or.inr (by simp only [h, if_true]; exact hn)))

theorem fixed_rd {sc : Scope} {g : VIn} (ho : OuterOk sc g) {n : S}
    (hn : n ∈ [t "cls", t "fields", t "MISSING", t "re_raise", t "raise_missing_fields", t "locals", t "Exception"]) (x : List S) :
    Rd sc x n := outer_rd ho x _ (mem_outer_fixed g _ hn)

/-- what the statements behind the head rely on: `o` is assigned, and so are the key counter and `init_kwargs` where the template
uses them -/
structure Ctx (g : VIn) (asg : List S) : Prop where
  o : t "o" ∈ asg
  i : g.preAssign = true → t "i" ∈ asg
  kw : g.hasDefaults = true → t "init_kwargs" ∈ asg

theorem Ctx.mono {g : VIn} {a b : List S} (h : Ctx g a) (hab : ∀ n ∈ a, n ∈ b) : Ctx g b :=
  ⟨hab _ h.o, fun hp => hab _ (h.i hp), fun hd => hab _ (h.kw hd)⟩

theorem Key.reads_field (k : Key) : ∀ n ∈ k.reads, n = t "field" := by
  cases k <;> simp [Key.reads]

theorem keys_reads_field (ks : List Key) : ∀ n ∈ ks.flatMap Key.reads, n = t "field" := fun n hn =>
  let ⟨k, _, hk⟩ := List.mem_flatMap.1 hn
  k.reads_field n hk

/-- `v1` is bound on the lookup line when the key or path is looked up there -/
def lookupV1 (f : VField) : List S :=
  match f.lookup with
  | .assign _ => [t "v1"]
  | .pathAssign _ => [t "v1"]
  | _ => []

theorem v1_bound {g : VIn} (hk : LookupsOk g) {f : VField} (hf : f ∈ g.fields) : t "v1" ∈ lookupV1 f ++ condWrites f := by
  unfold lookupV1 condWrites
  cases hlk : f.lookup with
  | assign k => simp
  | pathAssign ps => simp
  | anyOf ks =>
    cases ks with
    | nil => exact absurd hlk (hk f hf).1
    | cons k r => simp
  | pathAnyOf ps =>
    cases ps with
    | nil => exact absurd hlk (hk f hf).2
    | cons k r => simp

theorem assign_ok (sc : Scope) (g : VIn) (hl : LocalsOk sc g) (he : ExprsOk sc g) (f : VField) (hf : f ∈ g.fields) (x : List S)
    (cx : Ctx g x) (hfx : t "field" ∈ x) (hvx : t "v1" ∈ x) : PartsOk sc x (assignParts g f) := by
  have hne : g.fields ≠ [] := List.ne_nil_of_mem hf
  have hexpr : ∀ n ∈ (exprPart f).reads, Rd sc x n := by
    intro n hn
    rcases List.mem_append.1 hn with h | h
    · rcases he f hf n h with h | h
      · rw [h]; exact Rd.of_mem (hl.v1 hne) hvx
      · exact Or.inr h
    · obtain ⟨hd, h⟩ := List.mem_ite_nil_right.1 h
      have hD : g.hasDefaults = true := by simp [VIn.hasDefaults, List.any_eq_true.2 ⟨f, hf, hd⟩]
      exact Rd.cons (Rd.of_mem (hl.kw hD) (cx.kw hD)) (Rd.cons (Rd.of_mem (hl.field hne) hfx) Rd.nil) n h
  unfold assignParts
  cases hpa : g.preAssign
  · exact ⟨hexpr, trivial⟩
  · exact ⟨Rd.cons (Rd.of_mem (hl.i hpa) (cx.i hpa)) Rd.nil, fun n hn => (hexpr n hn).mono fun _ => List.mem_append_right _, trivial⟩

/-- in each of the four lookup forms the lookup line binds `field`, the condition is read after it, and by then or by the
condition `v1` is bound for the assignment -/
theorem field_ok (p : Char → Bool) (sc : Scope) (g : VIn) (hl : LocalsOk sc g) (ho : OuterOk sc g) (he : ExprsOk sc g)
    (hk : LookupsOk g) (f : VField) (hf : f ∈ g.fields) (asg : List S) (hc : Ctx g asg) :
    ∃ a, checkL1 sc asg (fieldStmts p g f) = some (some a) ∧ ∀ n ∈ asg, n ∈ a := by
  have hne : g.fields ≠ [] := List.ne_nil_of_mem hf
  have lf := hl.field hne
  have lv := hl.v1 hne
  have M : ∀ x, Rd sc x (t "MISSING") := fixed_rd ho (by simp)
  have sg : usesPath f = true → ∀ x, Rd sc x (t "safe_get") := fun h x => outer_rd ho x _ (mem_outer_safe_get g f hf h)
  have lo : ∀ {x}, t "o" ∈ x → Rd sc x (t "o") := Rd.of_mem hl.o
  have ofl : t "o" ∈ (fieldLit p f).writes ++ asg := List.mem_append_right _ hc.o
  -- `ps`: the rest of the lookup line (a `getPart`, a `pathPart` or nothing), so that both uses of `line_if_ok` below fit
  have body : ∀ (ps : List Part) (a : List S), (∀ n, n ∈ partsBinds (fieldLit p f :: ps) ∨ n ∈ asg → n ∈ a) →
      t "v1" ∈ condWrites f ++ a → PartsOk sc (condWrites f ++ a) (assignParts g f) := fun ps a m hv =>
    assign_ok sc g hl he f hf _ (hc.mono fun n hn => List.mem_append_right _ (m n (Or.inr hn)))
      (List.mem_append_right _ (m _ (Or.inl (.head _)))) hv
  -- what a lookup by key, or a chain of them, reads: `o`, names that are all `field`, `MISSING`
  have keyed : ∀ (ks x : List S), (∀ n ∈ ks, n = t "field") → t "o" ∈ x → t "field" ∈ x →
      ∀ n ∈ [t "o"] ++ ks ++ [t "MISSING"], Rd sc x n := by
    intro ks x hks hox hfx n hn
    simp only [List.mem_append, List.mem_singleton] at hn
    rcases hn with (h | h) | h
    · rw [h]; exact lo hox
    · rw [hks n h]; exact Rd.of_mem lf hfx
    · rw [h]; exact M _
  have hv := v1_bound hk hf
  unfold fieldStmts assignLine lookupLine
  cases hlk : f.lookup with
  | assign k =>
    refine line_if_ok sc [fieldLit p f, getPart p k] _ _ _ _ _ asg
      ⟨Rd.nil, keyed k.reads _ k.reads_field ofl (.head _), trivial⟩ fun a m => ?_
    have hva : t "v1" ∈ a := m _ (Or.inl (by simp [partsBinds, fieldLit, getPart]))
    exact ⟨by simp only [condReads, hlk]; exact Rd.cons (Rd.of_mem lv hva) (Rd.cons (M _) Rd.nil),
      body _ a m (List.mem_append_right _ hva)⟩
  | pathAssign ps =>
    have hp : usesPath f = true := by simp [usesPath, hlk]
    refine line_if_ok sc [fieldLit p f, pathPart p (!f.hasDefault) ps] _ _ _ _ _ asg
      ⟨Rd.nil, Rd.cons (sg hp _) (Rd.cons (lo ofl) Rd.nil), trivial⟩ fun a m => ?_
    have hva : t "v1" ∈ a := m _ (Or.inl (by simp [partsBinds, fieldLit, pathPart]))
    exact ⟨by simp only [condReads, hlk]; exact Rd.cons (Rd.of_mem lv hva) (Rd.cons (M _) Rd.nil),
      body _ a m (List.mem_append_right _ hva)⟩
  | anyOf ks =>
    have hv : t "v1" ∈ condWrites f := by simpa [lookupV1, hlk] using hv
    refine line_if_ok sc [fieldLit p f] _ _ _ _ _ asg ⟨Rd.nil, trivial⟩ fun a m =>
      ⟨?_, body _ a m (List.mem_append_left _ hv)⟩
    simp only [condReads, hlk]
    exact keyed _ a (keys_reads_field ks) (m _ (Or.inr hc.o)) (m _ (Or.inl (.head _)))
  | pathAnyOf ps =>
    have hv : t "v1" ∈ condWrites f := by simpa [lookupV1, hlk] using hv
    have hp : usesPath f = true := by simp [usesPath, hlk]
    refine line_if_ok sc [fieldLit p f] _ _ _ _ _ asg ⟨Rd.nil, trivial⟩ fun a m =>
      ⟨?_, body _ a m (List.mem_append_left _ hv)⟩
    simp only [condReads, hlk]
    exact Rd.cons (sg hp _) (Rd.cons (lo (m _ (Or.inr hc.o))) (Rd.cons (M _) Rd.nil))

theorem fields_ok (p : Char → Bool) (sc : Scope) (g : VIn) (hl : LocalsOk sc g) (ho : OuterOk sc g) (he : ExprsOk sc g)
    (hk : LookupsOk g) (fs : List VField) (asg : List S) (hfs : ∀ f ∈ fs, f ∈ g.fields) (hc : Ctx g asg) :
    ∃ a, checkL1 sc asg (allFieldStmts p g fs) = some (some a) ∧ ∀ n ∈ asg, n ∈ a := by
  induction fs generalizing asg with
  | nil => exact ⟨asg, rfl, fun _ h => h⟩
  | cons f r ih =>
    obtain ⟨a1, c1, s1⟩ := field_ok p sc g hl ho he hk f (hfs f (by simp)) asg hc
    obtain ⟨a2, c2, s2⟩ := ih a1 (fun f' hf' => hfs f' (by simp [hf'])) (hc.mono s1)
    exact ⟨a2, by simp only [allFieldStmts, checkL1_append, c1, c2], fun n hn => s2 n (s1 n hn)⟩

theorem tag_ok (p : Char → Bool) (sc : Scope) (g : VIn) (hl : LocalsOk sc g) (asg : List S) (hc : Ctx g asg) :
    ∃ a, checkL1 sc asg (tagStmts p g) = some (some a) ∧ ∀ n ∈ asg, n ∈ a := by
  unfold tagStmts
  cases g.tagKey with
  | none => exact ⟨asg, rfl, fun _ h => h⟩
  | some k =>
    cases hpa : g.preAssign with
    | false => exact ⟨asg, rfl, fun _ h => h⟩
    | true =>
      exact line_if_ok sc [fieldNone] [incPart] _ [t "o"] [] [] asg ⟨Rd.nil, trivial⟩ fun a m =>
        ⟨Rd.cons (Rd.of_mem hl.o (m _ (Or.inr hc.o))) Rd.nil,
          Rd.cons (Rd.of_mem (hl.i hpa) (List.mem_append_right _ (m _ (Or.inr (hc.i hpa))))) Rd.nil, trivial⟩

theorem safePrefix_field (p : Char → Bool) (g : VIn) (f : VField) (r : List VField) :
    t "field" ∈ safePrefix (tagStmts p g ++ allFieldStmts p g (f :: r)) := by
  have hfirst : t "field" ∈ safePrefix (allFieldStmts p g (f :: r)) := by
    simp only [allFieldStmts, fieldStmts, List.cons_append, lookupLine]
    cases f.lookup <;> simp [safePrefix, fieldLit, getPart, pathPart, List.takeWhile]
  unfold tagStmts
  cases g.tagKey with
  | none => simpa using hfirst
  | some k =>
    cases g.preAssign with
    | false => simpa using hfirst
    | true => simp [safePrefix, fieldNone, List.takeWhile]

/-- the handler starts from what is bound when the first exception can be raised (`safePrefix`) -/
theorem block_ok (p : Char → Bool) (sc : Scope) (g : VIn) (hl : LocalsOk sc g) (ho : OuterOk sc g) (he : ExprsOk sc g)
    (hk : LookupsOk g) (asg : List S) (hc : Ctx g asg) :
    ∃ a, checkL2 sc asg (fieldBlock p g) = some (some a) ∧ ∀ n ∈ asg, n ∈ a := by
  unfold fieldBlock
  cases hfs : g.fields with
  | nil => exact ⟨asg, rfl, fun _ h => h⟩
  | cons f r =>
    have hne : g.fields ≠ [] := by simp [hfs]
    obtain ⟨a1, c1, s1⟩ := tag_ok p sc g hl asg hc
    obtain ⟨a2, c2, s2⟩ := fields_ok p sc g hl ho he hk (f :: r) a1 (fun f' hf' => by rw [hfs]; exact hf') (hc.mono s1)
    have hbody : checkL1 sc asg (tagStmts p g ++ allFieldStmts p g (f :: r)) = some (some a2) := by
      simp only [checkL1_append, c1, c2]
    obtain ⟨a3, c3, m3⟩ := checkParts_ok sc [handlerPart]
      (safePrefix (tagStmts p g ++ allFieldStmts p g (f :: r)) ++ asNames (some (t "e")) ++ asg)
      ⟨Rd.cons (fixed_rd ho (by simp) _) (Rd.cons (Rd.of_mem (hl.e hne) (by simp [asNames])) (Rd.cons (fixed_rd ho (by simp) _)
        (Rd.cons (Rd.of_mem hl.o (by simp [hc.o])) (Rd.cons (fixed_rd ho (by simp) _)
        (Rd.cons (Rd.of_mem (hl.field hne) (by simp [safePrefix_field p g f r])) (Rd.cons (fixed_rd ho (by simp) _) Rd.nil)))))), trivial⟩
    have re : rds sc asg [t "Exception"] = true := rds_of sc asg _ (Rd.cons (fixed_rd ho (by simp) _) Rd.nil)
    refine ⟨a2.filter a3.contains, ?_, fun n hn => ?_⟩
    · simp only [checkL2, S2.check, re, if_true, hbody, handlerStmts, checkL0, S0.check, c3, Option.map_some, Flow.meet]
    · simp [List.mem_filter, s2 n (s1 n hn), m3 n (Or.inr (by simp [hn]))]

theorem head_ok (sc : Scope) (g : VIn) (hl : LocalsOk sc g) (ho : OuterOk sc g) (asg : List S) (hao : t "o" ∈ asg) :
    ∃ a, checkL2 sc asg (headStmts g) = some (some a) ∧ (∀ n ∈ asg, n ∈ a) ∧ Ctx g a := by
  obtain ⟨a, ha, hm⟩ := ((opt_line_ok sc g.preFromDict [prePart] asg fun hp =>
      ⟨Rd.cons (outer_rd ho _ _ (mem_outer_pre g hp)) (Rd.cons (Rd.of_mem hl.o hao) Rd.nil), trivial⟩).append fun a _ =>
    opt_line_ok sc g.hasDefaults [kwPart] a fun _ => ⟨Rd.nil, trivial⟩).append fun a _ =>
    opt_line_ok sc g.preAssign [iPart] a fun _ => ⟨Rd.nil, trivial⟩
  refine ⟨a, ha, fun n hn => hm n (Or.inr hn), hm _ (Or.inr hao), fun hp => hm _ (Or.inl ?_), fun hd => hm _ (Or.inl ?_)⟩
  · simp [hp, partsBinds, iPart]
  · simp [hd, partsBinds, kwPart]

theorem after_ok (p : Char → Bool) (sc : Scope) (g : VIn) (hl : LocalsOk sc g) (ho : OuterOk sc g) (asg : List S) (hc : Ctx g asg) :
    ∃ a, checkL2 sc asg (afterStmts p g) = some (some a) ∧ ∀ n ∈ asg, n ∈ a := by
  have lo : ∀ {x}, t "o" ∈ x → Rd sc x (t "o") := Rd.of_mem hl.o
  -- everything behind the block counts keys: `len`, `aliases` are outside names, `i` is bound
  have cnt : (g.hasCatchAll || g.unknown != .none) = true → (∀ {n}, n ∈ [t "aliases", t "len"] → ∀ x, Rd sc x n) ∧
      ∀ n ∈ countReads, Rd sc asg n := fun h =>
    have oc : ∀ {n}, n ∈ [t "aliases", t "len"] → ∀ x, Rd sc x n := fun hn x => outer_rd ho x _ (mem_outer_count g h _ hn)
    ⟨oc, Rd.cons (oc (by simp) _) (Rd.cons (lo hc.o) (Rd.cons (Rd.of_mem (hl.i h) (hc.i h)) Rd.nil))⟩
  unfold afterStmts
  cases hca : g.catchAll with
  | dflt n =>
    obtain ⟨oc, cr⟩ := cnt (by simp [VIn.hasCatchAll, hca])
    have hD : g.hasDefaults = true := by simp [VIn.hasDefaults, hca]
    exact (ifc_ok sc countCond countReads [] [] [.line [catchDfltPart p n]] asg cr
      ⟨⟨Rd.cons (lo hc.o) (Rd.cons (lo hc.o) (Rd.cons (oc (by simp) _) (Rd.cons (Rd.of_mem (hl.kw hD) (hc.kw hD)) Rd.nil))), trivial⟩,
        fun _ _ => trivial⟩).s1.sub
  | required n idx =>
    have hpa : g.preAssign = true := by simp [VIn.preAssign, VIn.hasCatchAll, hca]
    obtain ⟨oc, -⟩ := cnt hpa
    exact (s2_line_ok sc [catchReqPart n] asg ⟨Rd.cons (oc (by simp) _) (Rd.cons (lo hc.o) (Rd.cons (Rd.of_mem (hl.i hpa) (hc.i hpa))
      (Rd.cons (lo hc.o) (Rd.cons (lo hc.o) (Rd.cons (oc (by simp) _) Rd.nil))))), trivial⟩).sub
  | none =>
    cases hun : g.unknown with
    | none => exact ⟨asg, rfl, fun _ h => h⟩
    | raise =>
      obtain ⟨oc, cr⟩ := cnt (by simp [hun])
      have hek := hl.ek hca (by simp [hun])
      have os : ∀ {m}, m ∈ [t "set", t "UnknownKeysError"] → ∀ x, Rd sc x m := fun hm x => outer_rd ho x _ (by
        simp only [skeletonOuter, List.mem_append]; exact Or.inl (Or.inr (by simp only [hca, hun]; exact hm)))
      exact (ifc_ok sc countCond countReads [] [] [.line [extraKeysPart], raiseUnknown] asg cr
        ⟨⟨Rd.cons (os (by simp) _) (Rd.cons (lo hc.o) (Rd.cons (oc (by simp) _) Rd.nil)), trivial⟩, fun a hm =>
          Rd.cons (os (by simp) _) (Rd.cons (Rd.of_mem hek (hm _ (Or.inl (by simp [partsBinds, extraKeysPart]))))
            (Rd.cons (lo (hm _ (Or.inr hc.o))) (Rd.cons (fixed_rd ho (by simp) _) (Rd.cons (fixed_rd ho (by simp) _) Rd.nil))))⟩).s1.sub
    | warn =>
      obtain ⟨oc, cr⟩ := cnt (by simp [hun])
      have hek := hl.ek hca (by simp [hun])
      have os : ∀ {m}, m ∈ [t "set", t "LOG"] → ∀ x, Rd sc x m := fun hm x => outer_rd ho x _ (by
        simp only [skeletonOuter, List.mem_append]; exact Or.inl (Or.inr (by simp only [hca, hun]; exact hm)))
      exact (ifc_ok sc countCond countReads [] [] [.line [extraKeysPart], .line [warnPart]] asg cr
        ⟨⟨Rd.cons (os (by simp) _) (Rd.cons (lo hc.o) (Rd.cons (oc (by simp) _) Rd.nil)), trivial⟩, fun a hm =>
          have ek : Rd sc a (t "extra_keys") := Rd.of_mem hek (hm _ (Or.inl (by simp [partsBinds, extraKeysPart])))
          ⟨⟨Rd.cons (os (by simp) _) (Rd.cons (oc (by simp) _) (Rd.cons ek (Rd.cons ek (Rd.cons (fixed_rd ho (by simp) _)
            (Rd.cons (fixed_rd ho (by simp) _) Rd.nil))))), trivial⟩, fun _ _ => trivial⟩⟩).s1.sub

theorem insertAt_perm (l : List S) (i : Nat) (x : S) : (insertAt l i x).Perm (x :: l) :=
  List.perm_middle.trans (by rw [List.take_append_drop])

theorem mem_insertAt {l : List S} {i : Nat} {x v : S} : v ∈ insertAt l i x ↔ v = x ∨ v ∈ l :=
  (insertAt_perm l i x).mem_iff.trans List.mem_cons

theorem mem_ctorVars {g : VIn} {v : S} : v ∈ ctorVars g ↔
    (∃ n idx, g.catchAll = .required n idx ∧ v = fieldVar n) ∨ ∃ f ∈ g.fields, f.hasDefault = false ∧ fieldVar f.name = v := by
  have hreq : v ∈ (g.fields.filter (fun f => !f.hasDefault)).map (fun f => fieldVar f.name) ↔
      ∃ f ∈ g.fields, f.hasDefault = false ∧ fieldVar f.name = v := by
    simp [List.mem_map, List.mem_filter, and_assoc]
  unfold ctorVars
  cases g.catchAll with
  | required n idx => simp [mem_insertAt, hreq]
  | _ => simp [hreq]

/-- reading a constructor variable that is not bound is then the UnboundLocalError the template catches, never a NameError -/
theorem ctorVars_local (sc : Scope) (g : VIn) (hl : LocalsOk sc g) : ∀ v ∈ ctorVars g, v ∈ sc.locals := by
  intro v hv
  rcases mem_ctorVars.1 hv with ⟨n, idx, hca, rfl⟩ | ⟨f, hf, hd, rfl⟩
  · exact hl.ca n idx hca
  · exact hl.fv f hf hd

theorem tail_ok (sc : Scope) (g : VIn) (hl : LocalsOk sc g) (ho : OuterOk sc g) (asg : List S) (hc : Ctx g asg) :
    (checkL2 sc asg (tailStmts g)).isSome = true := by
  have h1 : rds sc asg (ctorReads g) = true := rds_of sc asg _ (Rd.cons (fixed_rd ho (by simp) _) fun n h => by
    obtain ⟨hd, h⟩ := List.mem_ite_nil_right.1 h
    exact Rd.cons (Rd.of_mem (hl.kw hd) (hc.kw hd)) Rd.nil n h)
  have h2 : (ctorVars g).all (fun n => sc.locals.contains n) = true :=
    List.all_eq_true.2 fun v hv => by simpa using ctorVars_local sc g hl v hv
  obtain ⟨a, c, _⟩ := checkParts_ok sc [missingPart] asg
    ⟨Rd.cons (fixed_rd ho (by simp) _) (Rd.cons (fixed_rd ho (by simp) _) (Rd.cons (Rd.of_mem hl.o hc.o) (Rd.cons (fixed_rd ho (by simp) _)
      (Rd.cons (fixed_rd ho (by simp) _) Rd.nil)))), trivial⟩
  simp only [tailStmts, checkL2, S2.check, h1, h2, Bool.and_self, if_true, checkL0, S0.check, c, Option.map_some]
  rfl

theorem wellScoped_in (p : Char → Bool) (sc : Scope) (g : VIn) (hl : LocalsOk sc g) (ho : OuterOk sc g) (he : ExprsOk sc g)
    (hk : LookupsOk g) : (checkL2 sc [t "o"] (genBody p g)).isSome = true := by
  obtain ⟨a1, c1, s1, x1⟩ := head_ok sc g hl ho [t "o"] (by simp)
  obtain ⟨a2, c2, s2⟩ := block_ok p sc g hl ho he hk a1 x1
  obtain ⟨a3, c3, s3⟩ := after_ok p sc g hl ho a2 (x1.mono s2)
  have c4 := tail_ok sc g hl ho a3 ((x1.mono s2).mono s3)
  unfold genBody
  simp only [checkL2_append, c1, c2, c3]
  exact c4

theorem headStmts_binds (g : VIn) : (headStmts g).flatMap S2.binds =
    (if g.preFromDict then [t "o"] else []) ++
      ((if g.hasDefaults then [t "init_kwargs"] else []) ++ (if g.preAssign then [t "i"] else [])) := by
  unfold headStmts
  rw [List.flatMap_append, List.flatMap_append, List.append_assoc]
  cases g.preFromDict <;> cases g.hasDefaults <;> cases g.preAssign <;> rfl

theorem mem_lookupV1 {f : VField} {n : S} (h : n ∈ lookupV1 f) : n = t "v1" := by
  unfold lookupV1 at h
  split at h
  · exact List.mem_singleton.1 h
  · exact List.mem_singleton.1 h
  · cases h

theorem mem_condWrites {f : VField} {n : S} (h : n ∈ condWrites f) : n = t "v1" := by
  unfold condWrites at h
  split at h
  · exact List.mem_singleton.1 h
  · exact List.mem_singleton.1 h
  · cases h

theorem assignParts_binds (g : VIn) (f : VField) :
    partsBinds (assignParts g f) = (if g.preAssign then [t "i"] else []) ++ (exprPart f).writes := by
  unfold assignParts
  cases g.preAssign <;> simp [partsBinds, incPart]

theorem fieldStmts_binds (p : Char → Bool) (g : VIn) (f : VField) : (fieldStmts p g f).flatMap S1.binds =
    t "field" :: (lookupV1 f ++ condWrites f) ++ (f.exprBinds ++ ((if g.preAssign then [t "i"] else []) ++ (exprPart f).writes)) := by
  rw [← assignParts_binds]
  unfold fieldStmts assignLine lookupLine lookupV1
  cases f.lookup <;> simp [S1.binds, S0.binds, partsBinds, fieldLit, getPart, pathPart]

theorem allFieldStmts_eq (p : Char → Bool) (g : VIn) (fs : List VField) : allFieldStmts p g fs = fs.flatMap (fieldStmts p g) := by
  induction fs with
  | nil => rfl
  | cons f r ih => rw [allFieldStmts, ih, List.flatMap_cons]

theorem mem_allFieldStmts_binds (p : Char → Bool) (g : VIn) (n : S) (fs : List VField) :
    n ∈ (allFieldStmts p g fs).flatMap S1.binds ↔ ∃ f ∈ fs, n ∈ (fieldStmts p g f).flatMap S1.binds := by
  rw [allFieldStmts_eq, List.flatMap_assoc, List.mem_flatMap]

theorem tagStmts_binds (p : Char → Bool) (g : VIn) : ∀ n ∈ (tagStmts p g).flatMap S1.binds, n = t "field" ∨ n = t "i" := by
  intro n hn
  unfold tagStmts at hn
  split at hn
  · split at hn
    · simpa [S1.binds, S0.binds, partsBinds, fieldNone, incPart] using hn
    · cases hn
  · cases hn

theorem mem_fieldBlock_binds (p : Char → Bool) (g : VIn) (n : S) : n ∈ (fieldBlock p g).flatMap S2.binds ↔
    g.fields ≠ [] ∧ (n ∈ (tagStmts p g).flatMap S1.binds ∨ (∃ f ∈ g.fields, n ∈ (fieldStmts p g f).flatMap S1.binds) ∨
      n = t "e") := by
  unfold fieldBlock
  cases hfs : g.fields with
  | nil => simp
  | cons f r =>
    simp only [List.flatMap_cons, List.flatMap_nil, List.append_nil, S2.binds, List.flatMap_append, List.mem_append,
      mem_allFieldStmts_binds, asNames, List.mem_singleton, handlerStmts, S0.binds, partsBinds, handlerPart,
      ne_eq, reduceCtorEq, not_false_eq_true, true_and, or_assoc]

theorem afterStmts_binds (p : Char → Bool) (g : VIn) : (afterStmts p g).flatMap S2.binds =
    match g.catchAll, g.unknown with
    | .required n _, _ => [fieldVar n]
    | .none, .raise => [t "extra_keys"]
    | .none, .warn => [t "extra_keys"]
    | _, _ => [] := by
  unfold afterStmts
  cases g.catchAll <;> cases g.unknown <;> rfl

theorem mem_bindsAll (p : Char → Bool) (g : VIn) (n : S) : n ∈ bindsAll p g ↔
    n ∈ (headStmts g).flatMap S2.binds ∨ n ∈ (fieldBlock p g).flatMap S2.binds ∨ n ∈ (afterStmts p g).flatMap S2.binds := by
  have tail : (tailStmts g).flatMap S2.binds = [] := rfl
  simp only [bindsAll, genBody, List.flatMap_append, List.mem_append, tail, List.not_mem_nil, or_false]

theorem localsOk_genScope (p : Char → Bool) (g : VIn) (outer : List S) (hk : LookupsOk g) : LocalsOk (genScope p g outer) g := by
  have hb : ∀ {n}, n ∈ bindsAll p g → n ∈ (genScope p g outer).locals := fun h => List.mem_cons_of_mem _ h
  have head : ∀ {n}, n ∈ (headStmts g).flatMap S2.binds → n ∈ (genScope p g outer).locals := fun h =>
    hb ((mem_bindsAll p g _).2 (Or.inl h))
  have block : ∀ {n}, g.fields ≠ [] → (n ∈ (tagStmts p g).flatMap S1.binds ∨
      (∃ f ∈ g.fields, n ∈ (fieldStmts p g f).flatMap S1.binds) ∨ n = t "e") → n ∈ (genScope p g outer).locals := fun hne h =>
    hb ((mem_bindsAll p g _).2 (Or.inr (Or.inl ((mem_fieldBlock_binds p g _).2 ⟨hne, h⟩))))
  have fld : ∀ {n} (f : VField), f ∈ g.fields → n ∈ (fieldStmts p g f).flatMap S1.binds → n ∈ (genScope p g outer).locals :=
    fun f hf h => block (List.ne_nil_of_mem hf) (Or.inr (Or.inl ⟨f, hf, h⟩))
  have after : ∀ {n}, n ∈ (afterStmts p g).flatMap S2.binds → n ∈ (genScope p g outer).locals := fun h =>
    hb ((mem_bindsAll p g _).2 (Or.inr (Or.inr h)))
  refine ⟨List.mem_cons_self, fun h => head ?_, fun h => head ?_, fun h => ?_, fun h => ?_, fun h => block h (Or.inr (Or.inr rfl)),
    fun f hf hd => fld f hf ?_, fun f hf n hn => fld f hf ?_, fun n idx hca => after ?_, fun hca hun => after ?_⟩
  · rw [headStmts_binds]; simp [h]
  · rw [headStmts_binds]; simp [h]
  · obtain ⟨f, hf⟩ := List.exists_mem_of_ne_nil _ h
    exact fld f hf (by rw [fieldStmts_binds]; exact .head _)
  · obtain ⟨f, hf⟩ := List.exists_mem_of_ne_nil _ h
    exact fld f hf (by rw [fieldStmts_binds]; exact List.mem_append_left _ (List.mem_cons_of_mem _ (v1_bound hk hf)))
  · rw [fieldStmts_binds]; simp [exprPart, hd]
  · rw [fieldStmts_binds]; simp [exprPart, hn]
  · rw [afterStmts_binds, hca]; exact .head _
  · rw [afterStmts_binds, hca]
    cases hu : g.unknown with
    | none => exact absurd hu hun
    | raise => exact .head _
    | warn => exact .head _

theorem wellScoped_all (p : Char → Bool) (g : VIn) (outer : List S) (hk : LookupsOk g)
    (ho : OuterOk (genScope p g outer) g) (he : ExprsOk (genScope p g outer) g) : wellScoped p g outer = true :=
  wellScoped_in p (genScope p g outer) g (localsOk_genScope p g outer hk) ho he hk

def Bindable (g : VIn) (n : S) : Prop :=
  n ∈ fixedLocals ∨ (∃ m, n = fieldVar m) ∨ (∃ f ∈ g.fields, n ∈ f.exprWrites ∨ n ∈ f.exprBinds)

/-- `allOuter` is the outside names of all alternatives, in the order `skeletonOuter` lists them -/
theorem skeletonOuter_sub (g : VIn) : ∀ n ∈ skeletonOuter g, n ∈ allOuter := by
  intro n hn
  have e : allOuter = [t "cls", t "fields", t "MISSING", t "re_raise", t "raise_missing_fields", t "locals", t "Exception"] ++
      [t "__pre_from_dict__"] ++ [t "aliases", t "len"] ++ [t "set", t "UnknownKeysError", t "LOG"] ++ [t "safe_get"] := rfl
  rw [e]
  simp only [skeletonOuter, List.mem_append, List.mem_ite_nil_right] at hn ⊢
  refine hn.imp (Or.imp (Or.imp (Or.imp_right And.right) And.right) fun h => ?_) And.right
  split at h <;> simp only [List.mem_cons, List.not_mem_nil, or_false] at h ⊢
  · exact h.imp_right .inl
  · exact h.imp_right .inr

theorem fixed_bindable (g : VIn) (n : S) (h : n ∈ fixedLocals) : Bindable g n := Or.inl h

theorem bindsAll_bindable (p : Char → Bool) (g : VIn) : ∀ n ∈ bindsAll p g, Bindable g n := by
  intro n hn
  have o : t "o" ∈ fixedLocals := .head _
  have kw : t "init_kwargs" ∈ fixedLocals := .tail _ (.head _)
  have i : t "i" ∈ fixedLocals := .tail _ (.tail _ (.head _))
  have field : t "field" ∈ fixedLocals := .tail _ (.tail _ (.tail _ (.head _)))
  have v1 : t "v1" ∈ fixedLocals := .tail _ (.tail _ (.tail _ (.tail _ (.head _))))
  have e : t "e" ∈ fixedLocals := .tail _ (.tail _ (.tail _ (.tail _ (.tail _ (.head _)))))
  have ek : t "extra_keys" ∈ fixedLocals := .tail _ (.tail _ (.tail _ (.tail _ (.tail _ (.tail _ (.head _))))))
  have opt : ∀ {b : Bool} {x : S}, x ∈ fixedLocals → n ∈ (if b then [x] else []) → Bindable g n := fun hx h =>
    Or.inl (List.mem_singleton.1 (List.mem_ite_nil_right.1 h).2 ▸ hx)
  rcases (mem_bindsAll p g n).1 hn with h | h | h
  · simp only [headStmts_binds, List.mem_append] at h
    rcases h with h | h | h
    · exact opt o h
    · exact opt kw h
    · exact opt i h
  · rcases ((mem_fieldBlock_binds p g n).1 h).2 with h | ⟨f, hf, h⟩ | h
    · exact (tagStmts_binds p g n h).elim (fun h => Or.inl (h ▸ field)) (fun h => Or.inl (h ▸ i))
    · simp only [fieldStmts_binds, exprPart, List.mem_cons, List.mem_append] at h
      rcases h with (h | h | h) | h | h | h | h
      · exact Or.inl (h ▸ field)
      · exact Or.inl (mem_lookupV1 h ▸ v1)
      · exact Or.inl (mem_condWrites h ▸ v1)
      · exact Or.inr (Or.inr ⟨f, hf, Or.inr h⟩)
      · exact opt i h
      · exact Or.inr (Or.inr ⟨f, hf, Or.inl h⟩)
      · exact Or.inr (Or.inl ⟨f.name, List.mem_singleton.1 (List.mem_ite_nil_left.1 h).2⟩)
    · exact Or.inl (h ▸ e)
  · rw [afterStmts_binds] at h
    split at h
    · exact Or.inr (Or.inl ⟨_, List.mem_singleton.1 h⟩)
    · exact Or.inl (List.mem_singleton.1 h ▸ ek)
    · exact Or.inl (List.mem_singleton.1 h ▸ ek)
    · cases h

theorem locals_bindable (p : Char → Bool) (g : VIn) (outer : List S) : ∀ n ∈ (genScope p g outer).locals, Bindable g n := by
  intro n hn
  rcases List.mem_cons.1 hn with rfl | h
  · exact Or.inl (.head _)
  · exact bindsAll_bindable p g n h

/-- every field variable ends in `v`; none of the template's own names does.  `String.toList_ofList` keeps the literals out of the
kernel (`Names.map_ofList_eq`). -/
theorem name_tables : (∀ x ∈ fixedLocals ++ allOuter, x.getLast? ≠ some 'v') ∧ ∀ n ∈ allOuter, n ∉ fixedLocals := by
  unfold fixedLocals allOuter t
  repeat rw [String.toList_ofList]
  decide +kernel

theorem ne_fieldVar {x : S} (h : x ∈ fixedLocals ++ allOuter) (m : S) : x ≠ fieldVar m :=
  fun e => name_tables.1 x h (e ▸ getLast_fieldVar m)

theorem outerOk_of (p : Char → Bool) (g : VIn) (outer : List S) (h1 : ∀ n ∈ skeletonOuter g, n ∈ outer)
    (h2 : ∀ f ∈ g.fields, ∀ n, (n ∈ f.exprWrites ∨ n ∈ f.exprBinds) → n ∉ allOuter) : OuterOk (genScope p g outer) g := by
  intro n hn
  refine ⟨fun hl => ?_, h1 n hn⟩
  have ha := skeletonOuter_sub g n hn
  rcases locals_bindable p g outer n hl with h | ⟨m, h⟩ | ⟨f, hf, h⟩
  · exact name_tables.2 n ha h
  · exact ne_fieldVar (List.mem_append_right _ ha) m h
  · exact h2 f hf n h ha

theorem exprsOk_of (p : Char → Bool) (g : VIn) (outer : List S)
    (h : ∀ f ∈ g.fields, ∀ n ∈ f.exprReads, n = t "v1" ∨ (n ∈ outer ∧ ¬ Bindable g n)) : ExprsOk (genScope p g outer) g := by
  intro f hf n hn
  exact (h f hf n hn).imp_right fun ⟨h1, h2⟩ => ⟨fun hl => h2 (locals_bindable p g outer n hl), h1⟩

theorem wellScoped_inputs (p : Char → Bool) (g : VIn) (outer : List S) (hk : LookupsOk g)
    (h1 : ∀ n ∈ skeletonOuter g, n ∈ outer)
    (h2 : ∀ f ∈ g.fields, ∀ n, (n ∈ f.exprWrites ∨ n ∈ f.exprBinds) → n ∉ allOuter)
    (h3 : ∀ f ∈ g.fields, ∀ n ∈ f.exprReads, n = t "v1" ∨ (n ∈ outer ∧ ¬ Bindable g n)) : wellScoped p g outer = true :=
  wellScoped_all p g outer hk (outerOk_of p g outer h1 h2) (exprsOk_of p g outer h3)

theorem shaped_fieldVar (m : S) : shaped (fieldVar m) = true := by
  have h2 : (t "__v").isSuffixOf (fieldVar m) = true := by
    rw [List.isSuffixOf_iff_suffix]
    exact ⟨'_' :: '_' :: m, by simp [fieldVar, t]⟩
  have h1 : (t "__").isPrefixOf (fieldVar m) = true := by simp [fieldVar, t, List.isPrefixOf]
  simp [shaped, h1, h2]

theorem not_bindable_of (g : VIn) (n : S) (h : bindableB g n = false) : ¬ Bindable g n := by
  simp only [bindableB, Bool.or_eq_false_iff, List.any_eq_false] at h
  obtain ⟨⟨h1, h2⟩, h3⟩ := h
  rintro (hb | ⟨m, hb⟩ | ⟨f, hf, hb⟩)
  · simp [hb] at h1
  · rw [hb, shaped_fieldVar] at h2; cases h2
  · exact h3 f hf (by rcases hb with hb | hb <;> simp [hb])

theorem premisesB_sound (p : Char → Bool) (g : VIn) (outer : List S) (h : premisesB g outer = true) : wellScoped p g outer = true := by
  simp only [premisesB, Bool.and_eq_true, List.all_eq_true] at h
  obtain ⟨⟨⟨h0, h1⟩, h2⟩, h3⟩ := h
  refine wellScoped_inputs p g outer ?_ ?_ ?_ ?_
  · exact fun f hf => by simpa only [lookupOkB, Bool.and_eq_true, bne_iff_ne, ne_eq] using h0 f hf
  · exact fun n hn => by simpa using h1 n hn
  · exact fun f hf n hn => by simpa using h2 f hf n (List.mem_append.2 hn)
  · intro f hf n hn
    have := h3 f hf n hn
    simp only [Bool.or_eq_true, beq_iff_eq, Bool.and_eq_true, Bool.not_eq_true', List.contains_iff_mem] at this
    exact this.imp_right (And.imp_right (not_bindable_of g n))

theorem fieldVar_fresh (m : S) : fieldVar m ∉ fixedLocals ∧ fieldVar m ∉ allOuter :=
  ⟨fun h => ne_fieldVar (List.mem_append_left _ h) m rfl, fun h => ne_fieldVar (List.mem_append_right _ h) m rfl⟩

theorem nodup_insertAt (l : List S) (i : Nat) (x : S) (hl : l.Nodup) (hx : x ∉ l) : (insertAt l i x).Nodup :=
  (insertAt_perm l i x).nodup_iff.2 (List.nodup_cons.2 ⟨hx, hl⟩)

theorem ctorVars_nodup (g : VIn) (hn : (g.fields.map (·.name)).Nodup)
    (hc : ∀ n idx, g.catchAll = .required n idx → n ∉ g.fields.map (·.name)) : (ctorVars g).Nodup := by
  have hreq : ((g.fields.filter (fun f => !f.hasDefault)).map (fun f => fieldVar f.name)).Nodup :=
    List.pairwise_map.2 (((List.pairwise_map.1 hn).sublist List.filter_sublist).imp fun h e => h (fieldVar_inj _ _ e))
  unfold ctorVars
  cases hca : g.catchAll with
  | required n idx =>
    refine nodup_insertAt _ idx _ hreq fun hm => ?_
    obtain ⟨f, hf, he⟩ := List.mem_map.1 hm
    exact hc n idx hca (fieldVar_inj _ _ he ▸ List.mem_map_of_mem (List.mem_filter.1 hf).1)
  | _ => exact hreq

theorem ctorVars_complete (g : VIn) (f : VField) (hf : f ∈ g.fields) (hd : f.hasDefault = false) : fieldVar f.name ∈ ctorVars g :=
  mem_ctorVars.2 (Or.inr ⟨f, hf, hd, rfl⟩)

end DW.GenLoadV1

