/-
Lemmas about the generator model `DW/Model/GenDump.lean`: the names the generated body writes and reads; the generated body is
well scoped for every input.
-/
import DW.Lemmas.GenDumpCore
import DW.Lemmas.Names

namespace DW.GenDump
open DW.Names

/-- is the seventh character a digit?  (`_skip_<i>` — and only that family among the names of the template) -/
def seventhDigit (X : S) : Bool := match X[6]? with | some c => isDigit c | none => false

theorem skipName_cons (i : Nat) : skipName i = '_' :: 's' :: 'k' :: 'i' :: 'p' :: '_' :: dec i := by
  -- `toList_ofList` in place of `rfl`, here and below: see `Names.map_ofList_eq`
  unfold skipName; rw [String.toList_ofList]; rfl

theorem defaultName_cons (i : Nat) : defaultName i = '_' :: 'd' :: 'e' :: 'f' :: 'a' :: 'u' :: 'l' :: 't' :: '_' :: dec i := by
  unfold defaultName; rw [String.toList_ofList]; rfl

theorem skipIfName_cons (i : Nat) : skipIfName i = '_' :: 's' :: 'k' :: 'i' :: 'p' :: '_' :: 'i' :: 'f' :: '_' :: dec i := by
  unfold skipIfName; rw [String.toList_ofList]; rfl

theorem skipValue_eq : skipValue = ['_', 's', 'k', 'i', 'p', '_', 'v', 'a', 'l', 'u', 'e'] := by
  unfold skipValue; rw [String.toList_ofList]

theorem skipDefaultsValue_eq :
    skipDefaultsValue = ['_', 's', 'k', 'i', 'p', '_', 'd', 'e', 'f', 'a', 'u', 'l', 't', 's', '_', 'v', 'a', 'l', 'u', 'e'] := by
  unfold skipDefaultsValue; rw [String.toList_ofList]

theorem skipName_seventh (i : Nat) : seventhDigit (skipName i) = true := by
  obtain ⟨hne, hd, _⟩ := dec_spec i
  rw [skipName_cons]
  cases h : dec i with
  | nil => exact absurd h hne
  | cons c t => simp [seventhDigit, hd c (by simp [h])]

theorem ne_skipName (X : S) (h : seventhDigit X = false) (i : Nat) : X ≠ skipName i := by
  intro e; rw [e, skipName_seventh] at h; cases h

theorem skipName_injective (i j : Nat) (h : skipName i = skipName j) : i = j := by
  unfold skipName at h
  exact dec_injective i j (List.append_cancel_left h)

theorem skipName_ne (i j : Nat) (h : i ≠ j) : skipName i ≠ skipName j := fun e => h (skipName_injective i j e)

theorem defaultName_injective (i j : Nat) (h : defaultName i = defaultName j) : i = j := by
  unfold defaultName at h
  exact dec_injective i j (List.append_cancel_left h)

theorem skipIfName_injective (i j : Nat) (h : skipIfName i = skipIfName j) : i = j := by
  unfold skipIfName at h
  exact dec_injective i j (List.append_cancel_left h)

theorem defaultName_ne_skipIfName (i j : Nat) : defaultName i ≠ skipIfName j := by
  rw [defaultName_cons, skipIfName_cons]; simp

theorem defaultName_ne_meta (i : Nat) : defaultName i ≠ skipValue ∧ defaultName i ≠ skipDefaultsValue := by
  rw [defaultName_cons, skipValue_eq, skipDefaultsValue_eq]; simp

theorem skipIfName_ne_meta (i : Nat) : skipIfName i ≠ skipValue ∧ skipIfName i ≠ skipDefaultsValue := by
  rw [skipIfName_cons, skipValue_eq, skipDefaultsValue_eq]; simp

theorem skip_defaults_ne_skipName (i : Nat) : skipName i ≠ "skip_defaults".toList := by
  rw [skipName_cons, String.toList_ofList]; simp

/-- `operand` tests for the parameter `exclude` before it looks in the closure; the generated names it looks up there (`_default_<i>`,
`_skip_if_<i>`, `_skip_value`, `_skip_defaults_value`) all start with an underscore -/
theorem ne_exclude {n t : S} (h : n = '_' :: t) : n ≠ "exclude".toList := by
  rw [h, String.toList_ofList]; simp

def fixedLocals : List S := params ++ ["result".toList, "paths".toList, "k".toList, "v".toList]

/-- the names `_skip_<i>` of the fields `fs`, numbered from `i`.  The targets of the `exclude` test, the assignments of its other
branch, the skip-defaults lines and the statements of the fields are all built by this recursion, so no index is computed. -/
def skipNames : Nat → List GField → List S
  | _, [] => []
  | i, _ :: r => skipName i :: skipNames (i + 1) r

theorem skipNames_shape : ∀ (fs : List GField) (i : Nat) (n : S), n ∈ skipNames i fs → ∃ j, n = skipName j
  | [], _ => fun _ h => by cases h
  | _ :: r, i => fun n h => by
    rcases List.mem_cons.1 h with h | h
    · exact ⟨i, h⟩
    · exact skipNames_shape r (i + 1) n h

theorem skipTargets_writes : ∀ (fs : List GField) (i : Nat), (skipTargets i fs).flatMap Target.writes = skipNames i fs
  | [], _ => rfl
  | _ :: r, i => by simp [skipTargets, Target.writes, skipNames, skipTargets_writes r (i + 1)]

theorem skipTargets_reads : ∀ (fs : List GField) (i : Nat), (skipTargets i fs).flatMap Target.reads = []
  | [], _ => rfl
  | _ :: r, i => by simp [skipTargets, Target.reads, skipTargets_reads r (i + 1)]

theorem excludeAssigns_writes (p : Char → Bool) : ∀ (fs : List GField) (i : Nat),
    (excludeAssigns p i fs).flatMap Simple.writes = skipNames i fs
  | [], _ => rfl
  | _ :: r, i => by simp [excludeAssigns, Simple.writes, Target.writes, skipNames, excludeAssigns_writes p r (i + 1)]

theorem excludeAssigns_reads (p : Char → Bool) : ∀ (fs : List GField) (i : Nat),
    ∀ n ∈ (excludeAssigns p i fs).flatMap Simple.reads, n = "exclude".toList
  | [], _ => fun _ h => by cases h
  | _ :: r, i => fun n h => by
    simp only [excludeAssigns, List.flatMap_cons, Simple.reads, Expr.reads, nm, Target.reads, List.flatMap_nil, List.append_nil,
      List.nil_append, List.mem_append, List.mem_singleton] at h
    exact h.elim id (excludeAssigns_reads p r (i + 1) n)

theorem skipDefaultLines_writes (p : Char → Bool) (g : GIn) : ∀ (fs : List GField) (i : Nat) (n : S),
    n ∈ (skipDefaultLines p g i fs).flatMap L1.writes → ∃ j, n = skipName j
  | [], _ => fun n h => by cases h
  | f :: r, i => fun n h => by
    simp only [skipDefaultLines, List.flatMap_append, List.mem_append] at h
    rcases h with h | h
    · by_cases hd : f.hasDefault = true
      · simp [hd, L1.writes, L0.writes, Simple.writes, Target.writes] at h
        exact ⟨i, h⟩
      · simp [hd] at h
    · exact skipDefaultLines_writes p g r (i + 1) n h

theorem fieldStmt_writes (p : Char → Bool) (g : GIn) (i : Nat) (f : GField) (n : S)
    (h : n ∈ (fieldStmt p g i f).flatMap L2.writes) : n = "k".toList ∨ n = "v".toList := by
  unfold fieldStmt at h
  -- only the `for k, v in …` of a catch-all field assigns anything
  split at h <;> try split at h
  all_goals simp [L2.writes, L1.writes, L0.writes, Simple.writes, Target.writes, appendStmt] at h
  exact h

theorem fieldStmts_writes (p : Char → Bool) (g : GIn) : ∀ (fs : List GField) (i : Nat) (n : S),
    n ∈ (fieldStmts p g i fs).flatMap L2.writes → n = "k".toList ∨ n = "v".toList
  | [], _ => fun n h => by cases h
  | f :: r, i => fun n h => by
    simp only [fieldStmts, List.flatMap_append, List.mem_append] at h
    rcases h with h | h
    · exact fieldStmt_writes p g i f n h
    · exact fieldStmts_writes p g r (i + 1) n h

theorem body_writes (p : Char → Bool) (g : GIn) (n : S) (h : n ∈ (genBody p g).flatMap L2.writes) :
    n ∈ fixedLocals ∨ ∃ j, n = skipName j := by
  unfold genBody at h
  simp only [List.flatMap_append, List.mem_append] at h
  rcases h with ((((h | h) | h) | h) | h) | h
  · split at h <;> simp [L2.writes, L1.writes, L0.writes, Simple.writes] at h
  · simp [L2.writes, L1.writes, L0.writes, Simple.writes, Target.writes] at h
    left; simp [fixedLocals, h]
  · split at h
    · simp [L2.writes, L1.writes, L0.writes, Simple.writes, Target.writes] at h
      left; simp [fixedLocals, h]
    · simp at h
  · split at h
    · simp at h
    · simp only [List.flatMap_append, List.mem_append] at h
      rcases h with (h | h) | h
      · right
        -- both branches of the `exclude` test assign every `_skip_<i>`
        simp only [List.flatMap_cons, List.flatMap_nil, List.append_nil, L2.writes, L1.writes, L0.writes, Option.getD,
          List.mem_append, Simple.writes, skipTargets_writes, excludeAssigns_writes, or_self] at h
        exact skipNames_shape _ _ n h
      · unfold sdBlock at h
        split at h
        · simp at h
        · right
          simp only [List.flatMap_cons, List.flatMap_nil, List.append_nil, L2.writes, Option.getD] at h
          exact skipDefaultLines_writes p g _ _ n h
      · left
        rcases fieldStmts_writes p g _ _ n h with h | h <;> simp [fixedLocals, h]
  · split at h
    · simp [L2.writes, L1.writes, L0.writes, Simple.writes, Target.writes] at h
      left; simp [fixedLocals, h]
    · simp at h
  · unfold tailStmts at h
    split at h
    · simp [L2.writes, L1.writes, L0.writes, Simple.writes, Target.writes] at h
      left; simp [fixedLocals, h]
    · simp [L2.writes, L1.writes, L0.writes, Simple.writes] at h

/-! ### which names are not locals

A local of the generated function is one of eight fixed names or a `_skip_<i>`.  The eight start with one of `o d e s r p k v` and a
`_skip_<i>` has a digit as its seventh character; a name that fails both tests is no local.  Comparing first characters instead of
whole names keeps the evaluation small. -/

def localHeads : List Char := ['o', 'd', 'e', 's', 'r', 'p', 'k', 'v']

def startsLikeLocal : S → Bool
  | c :: _ => localHeads.contains c
  | [] => true

def closureLike (X : S) : Bool := !startsLikeLocal X && !seventhDigit X

/-- the closure names whose text does not depend on the class, and the builtin.  `closure_not_local` addresses the entries by position
(`.tail _ (.head _)`, `mem_append_left`): order and bracketing matter. -/
def closureFixed : List S :=
  ["config".toList, "asdict".toList, "hooks".toList, "cls_to_asdict".toList] ++
  ([skipValue, skipDefaultsValue, "__pre_dict__".toList, "NestedDict".toList, "__dataclass_cls_asdict_return_type__".toList] ++
    builtinsRead)

theorem name_tables : fixedLocals.all startsLikeLocal = true ∧ closureFixed.all closureLike = true := by
  unfold fixedLocals params closureFixed skipValue skipDefaultsValue builtinsRead
  repeat rw [String.toList_ofList]
  decide +kernel

theorem closureLike_defaultName (j : Nat) : closureLike (defaultName j) = true := by
  rw [defaultName_cons]; rfl

theorem closureLike_skipIfName (j : Nat) : closureLike (skipIfName j) = true := by
  rw [skipIfName_cons]; rfl

theorem not_local (p : Char → Bool) (g : GIn) (fix : Bool) (X : S) (h : closureLike X = true) :
    X ∉ (genScopeQ p fix g).locals := by
  simp only [closureLike, Bool.and_eq_true, Bool.not_eq_true'] at h
  intro hm
  have hf : X ∈ fixedLocals ∨ ∃ j, X = skipName j := by
    rcases List.mem_append.1 hm with hm | hm
    · exact Or.inl (List.mem_append_left _ hm)
    · exact body_writes p g X hm
  rcases hf with hf | ⟨j, hf⟩
  · rw [List.all_eq_true.1 name_tables.1 X hf] at h; exact Bool.noConfusion h.1
  · exact ne_skipName X h.2 j hf

/-- the segments of `genLocalsQ` in its order; the proofs below pick a disjunct by position (`Or.inr (Or.inr …)`) -/
theorem mem_genLocals (p : Char → Bool) (fix : Bool) (g : GIn) (X : S) : X ∈ genLocalsQ p fix g ↔
    X ∈ ["config".toList, "asdict".toList, "hooks".toList, "cls_to_asdict".toList] ∨ X ∈ condLocals p g.skipIf skipValue ∨
      X ∈ condLocals p g.skipDefaultsIf skipDefaultsValue ∨ X ∈ (if g.preDict then ["__pre_dict__".toList] else []) ∨
      X ∈ (if g.hasPaths then ["NestedDict".toList] else []) ∨ X ∈ fieldsLocals p fix g 0 g.fields ∨
      X ∈ ["__dataclass_cls_asdict_return_type__".toList] := by
  simp only [genLocalsQ, List.mem_append, or_assoc]

theorem mem_condLocals {p : Char → Bool} {c : Option GCond} {name X : S} (h : X ∈ condLocals p c name) : X = name := by
  cases c with
  | none => cases h
  | some c => exact List.mem_singleton.1 (List.mem_ite_nil_right.1 h).2

theorem fieldLocals_shape (p : Char → Bool) (fix : Bool) (g : GIn) (i : Nat) (f : GField) :
    ∀ x ∈ fieldLocals p fix g i f, x = defaultName i ∨ x = skipIfName i := by
  intro x hx
  simp only [fieldLocals, List.mem_append] at hx
  rcases hx with hx | hx
  · exact Or.inl (List.mem_singleton.1 (List.mem_ite_nil_right.1 hx).2)
  · right
    split at hx
    · cases hx
    · exact List.mem_singleton.1 (List.mem_ite_nil_right.1 hx).2
    · cases hx

theorem fieldsLocals_shape (p : Char → Bool) (fix : Bool) (g : GIn) : ∀ (fs : List GField) (i : Nat) (x : S),
    x ∈ fieldsLocals p fix g i fs → (∃ j, x = defaultName j) ∨ (∃ j, x = skipIfName j)
  | [], _ => fun x h => by cases h
  | f :: r, i => fun x h => by
    simp only [fieldsLocals, List.mem_append] at h
    rcases h with h | h
    · rcases fieldLocals_shape p fix g i f x h with h | h
      · exact Or.inl ⟨i, h⟩
      · exact Or.inr ⟨i, h⟩
    · exact fieldsLocals_shape p fix g r (i + 1) x h

theorem closure_not_local (p : Char → Bool) (fix : Bool) (g : GIn) :
    ∀ X ∈ genLocalsQ p fix g ++ builtinsRead, X ∉ (genScopeQ p fix g).locals := by
  intro X hX
  refine not_local p g fix X ?_
  have tbl : ∀ Y ∈ closureFixed, closureLike Y = true := List.all_eq_true.1 name_tables.2
  have mid : ∀ Y ∈ [skipValue, skipDefaultsValue, "__pre_dict__".toList, "NestedDict".toList,
      "__dataclass_cls_asdict_return_type__".toList], closureLike Y = true :=
    fun Y hY => tbl Y (List.mem_append_right _ (List.mem_append_left _ hY))
  rcases List.mem_append.1 hX with h | h
  · rcases (mem_genLocals p fix g X).1 h with h | h | h | h | h | h | h
    · exact tbl X (List.mem_append_left _ h)
    · rw [mem_condLocals h]; exact mid _ (.head _)
    · rw [mem_condLocals h]; exact mid _ (.tail _ (.head _))
    · rw [List.mem_singleton.1 (List.mem_ite_nil_right.1 h).2]; exact mid _ (.tail _ (.tail _ (.head _)))
    · rw [List.mem_singleton.1 (List.mem_ite_nil_right.1 h).2]; exact mid _ (.tail _ (.tail _ (.tail _ (.head _))))
    · rcases fieldsLocals_shape p fix g g.fields 0 X h with ⟨j, h⟩ | ⟨j, h⟩
      · rw [h]; exact closureLike_defaultName j
      · rw [h]; exact closureLike_skipIfName j
    · rw [List.mem_singleton.1 h]; exact mid _ (.tail _ (.tail _ (.tail _ (.tail _ (.head _)))))
  · exact tbl X (List.mem_append_right _ (List.mem_append_right _ h))

theorem readOk_closure (p : Char → Bool) (g : GIn) (asg : List S) {X : S} (h : X ∈ genLocals p g) :
    (genScope p g).readOk asg X = true :=
  readOk_outer _ asg X (closure_not_local p true g X (List.mem_append_left _ h)) (List.mem_append_left _ h)

/-- the eight fixed names the per-field statements (and the tail) read: each is readable at `asg` -/
structure Base (sc : Scope) (asg : List S) : Prop where
  o : sc.readOk asg "o".toList = true
  dictFactory : sc.readOk asg "dict_factory".toList = true
  asdict : sc.readOk asg "asdict".toList = true
  hooks : sc.readOk asg "hooks".toList = true
  config : sc.readOk asg "config".toList = true
  clsToAsdict : sc.readOk asg "cls_to_asdict".toList = true
  ellipsis : sc.readOk asg "Ellipsis".toList = true
  result : sc.readOk asg "result".toList = true

theorem Base.mono {sc : Scope} {a b : List S} (hab : ∀ x ∈ a, x ∈ b) (h : Base sc a) : Base sc b :=
  ⟨readOk_mono hab h.o, readOk_mono hab h.dictFactory, readOk_mono hab h.asdict, readOk_mono hab h.hooks, readOk_mono hab h.config,
   readOk_mono hab h.clsToAsdict, readOk_mono hab h.ellipsis, readOk_mono hab h.result⟩

theorem base_of (p : Char → Bool) (g : GIn) (asg : List S) (hp : ∀ n ∈ params, n ∈ asg) (hr : "result".toList ∈ asg) :
    Base (genScope p g) asg :=
  have fixed : ∀ X ∈ ["config".toList, "asdict".toList, "hooks".toList, "cls_to_asdict".toList],
      (genScope p g).readOk asg X = true := fun X hX => readOk_closure p g asg ((mem_genLocals p true g X).2 (Or.inl hX))
  { o := readOk_of_mem _ (hp _ List.mem_cons_self)
    dictFactory := readOk_of_mem _ (hp _ (List.mem_cons_of_mem _ List.mem_cons_self))
    asdict := fixed _ (List.mem_cons_of_mem _ List.mem_cons_self)
    hooks := fixed _ (List.mem_cons_of_mem _ (List.mem_cons_of_mem _ List.mem_cons_self))
    config := fixed _ List.mem_cons_self
    clsToAsdict := fixed _ (List.mem_cons_of_mem _ (List.mem_cons_of_mem _ (List.mem_cons_of_mem _ List.mem_cons_self)))
    ellipsis := readOk_outer _ asg _ (closure_not_local p true g _ (List.mem_append_right _ (.head _)))
      (List.mem_append_right _ (.head _))
    result := readOk_of_mem _ hr }

theorem Base.asdictOf {sc : Scope} {asg : List S} (hb : Base sc asg) {e : Expr} (he : Reads sc asg e.reads) :
    Reads sc asg (asdictOf e).reads := by
  simpa only [GenDump.asdictOf, Expr.reads, nm, Reads_append, Reads_cons, Reads_nil, and_true, hb.asdict, hb.dictFactory, hb.hooks,
    hb.config, hb.clsToAsdict, true_and] using he

theorem Base.oAttr {sc : Scope} {asg : List S} (hb : Base sc asg) (f : S) : Reads sc asg (oAttr f).reads := by
  simpa only [GenDump.oAttr, Expr.reads, nm, Reads_cons, Reads_nil, and_true] using hb.o

theorem Base.append {sc : Scope} {asg : List S} (hb : Base sc asg) {k v : Expr} (hk : Reads sc asg k.reads)
    (hv : Reads sc asg v.reads) : Reads sc asg (appendStmt k v).reads := by
  simp only [appendStmt, Simple.reads, Expr.reads, nm, Reads_append, Reads_cons, Reads_nil, and_true]
  exact ⟨hb.result, hk, hb.asdictOf hv⟩

theorem inlineExpr_reads {c : GCond} {x : Expr} (h : c.inlineExpr = some x) : ∀ r ∈ x.reads, r = "Ellipsis".toList := by
  unfold GCond.inlineExpr at h
  -- every arm is `none`, a literal (which reads nothing) or the name `Ellipsis`
  split at h <;> try split at h
  all_goals cases h
  all_goals simp only [Expr.reads, List.mem_singleton, List.not_mem_nil, false_imp_iff, imp_self, implies_true]

/-- away from the two truthiness tests, `final` compares the first operand with the inlined value, or else with `operand2` -/
theorem GCond.final_cmp (p : Char → Bool) (c : GCond) (e : Expr) (op2 : S) (h : c.op.tOrF = false) :
    c.final p e op2 = .bin e (.cmp c.op) (c.inlineExpr.getD (.name op2)) := by
  unfold GCond.final
  cases hc : c.op
  case truthy | falsy => rw [hc] at h; cases h
  all_goals cases c.inlineExpr <;> rfl

theorem final_reads (p : Char → Bool) (c : GCond) (e : Expr) (op2 : S) :
    ∀ r ∈ (c.final p e op2).reads, r ∈ e.reads ∨ (r = op2 ∧ c.binds p = true) ∨ r = "Ellipsis".toList := by
  intro r hr
  cases ht : c.op.tOrF with
  | true =>
    -- `e` or `not e`
    have : (c.final p e op2).reads = e.reads := by
      unfold GCond.final
      cases hc : c.op
      case truthy | falsy => rfl
      all_goals rw [hc] at ht; cases ht
    exact Or.inl (this ▸ hr)
  | false =>
    rw [GCond.final_cmp p c e op2 ht, Expr.reads, List.mem_append] at hr
    refine hr.imp id fun hr => ?_
    cases hi : c.inlineExpr with
    | none => rw [hi] at hr; exact Or.inl ⟨List.mem_singleton.1 hr, by simp [GCond.binds, ht, hi]⟩
    | some x => rw [hi] at hr; exact Or.inr (inlineExpr_reads hi r hr)

theorem Base.final {sc : Scope} {asg : List S} (hb : Base sc asg) (p : Char → Bool) (c : GCond) (f op2 : S)
    (h2 : c.binds p = true → sc.readOk asg op2 = true) : Reads sc asg (c.final p (GenDump.oAttr f) op2).reads := by
  intro r hr
  rcases final_reads p c _ op2 r hr with h | ⟨h, hbd⟩ | h
  · exact hb.oAttr f r h
  · rw [h]; exact h2 hbd
  · rw [h]; exact hb.ellipsis

theorem readOk_condLocals {sc : Scope} {asg : List S} {p : Char → Bool} {oc : Option GCond} {name : S}
    (h : Reads sc asg (condLocals p oc name)) (c : GCond) (hc : oc = some c) (hb : c.binds p = true) : sc.readOk asg name = true :=
  h name (by simp [condLocals, hc, hb])

theorem fieldCond_reads (p : Char → Bool) (g : GIn) {sc : Scope} {asg : List S} (i : Nat) (f : GField) (hb : Base sc asg)
    (hsk : sc.readOk asg (skipName i) = true)
    (hsif : ∀ c, f.skipIf = some c → c.binds p = true → sc.readOk asg (skipIfName i) = true)
    (hsv : Reads sc asg (condLocals p g.skipIf skipValue)) :
    Reads sc asg (fieldCond p g i f).reads := by
  unfold fieldCond
  cases hf : f.skipIf with
  | some c =>
    simp only [Expr.reads, Reads_append, Reads_cons, Reads_nil, and_true]
    exact ⟨hsk, hb.final p c _ _ (hsif c hf)⟩
  | none =>
    cases hm : g.skipIf with
    | some c =>
      simp only [Expr.reads, Reads_append, Reads_cons, Reads_nil, and_true]
      exact ⟨hsk, hb.final p c _ _ (readOk_condLocals hsv c hm)⟩
    | none => simpa only [Expr.reads, Reads_cons, Reads_nil, and_true] using hsk

theorem fieldStmt_entryOk (p : Char → Bool) (g : GIn) {sc : Scope} {asg : List S} (i : Nat) (f : GField) (hb : Base sc asg)
    (hsk : sc.readOk asg (skipName i) = true)
    (hpaths : isPath f.key = true → sc.readOk asg "paths".toList = true)
    (hloc : Reads sc asg (fieldLocals p true g i f))
    (hsv : Reads sc asg (condLocals p g.skipIf skipValue)) :
    ∀ x ∈ fieldStmt p g i f, x.EntryOk sc asg := by
  intro x hx
  have hcond : f.key ≠ .null → Reads sc asg (fieldCond p g i f).reads := fun hk =>
    fieldCond_reads p g i f hb hsk (fun c hc hbd => hloc _ (by
      simp only [fieldLocals, List.mem_append]; right
      cases hkk : f.key with
      | null => exact absurd hkk hk
      | key k => simp [hc, hbd]
      | path ps => simp [hc, hbd])) hsv
  unfold fieldStmt at hx
  cases hk : f.key with
  | null =>
    simp only [hk] at hx
    obtain ⟨hca, hx⟩ := List.mem_ite_nil_right.1 hx
    rw [List.mem_singleton.1 hx]
    have hkv : ∀ a ∈ ["k".toList, "v".toList], sc.readOk (["k".toList, "v".toList] ++ asg) a = true :=
      fun a h => readOk_of_mem sc (List.mem_append_left _ h)
    refine entryOk_if_for.2 ⟨?_, by simpa only [Expr.reads] using hb.oAttr f.name,
      (hb.mono fun _ hx => List.mem_append_right _ hx).append ?_ ?_⟩
    · cases hd : f.hasDefault with
      | true =>
        simp only [if_true, Expr.reads, Reads_append, Reads_cons, Reads_nil, and_true]
        exact ⟨⟨hb.oAttr _, hloc _ (by simp [fieldLocals, hd, hca, hk])⟩, hsk⟩
      | false => simpa only [Bool.false_eq_true, if_false, Expr.reads, Reads_cons, Reads_nil, and_true] using hsk
    · simpa only [nm, Expr.reads, Reads_cons, Reads_nil, and_true] using hkv _ (.head _)
    · simpa only [nm, Expr.reads, Reads_cons, Reads_nil, and_true] using hkv _ (.tail _ (.head _))
  | key key =>
    simp only [hk, List.mem_singleton] at hx
    subst hx
    exact entryOk_if_line.2 ⟨hcond (by simp [hk]), hb.append (by simp [Expr.reads]) (hb.oAttr f.name)⟩
  | path ps =>
    simp only [hk, List.mem_singleton] at hx
    subst hx
    refine entryOk_if_line.2 ⟨hcond (by simp [hk]), ?_⟩
    simp only [Simple.reads, List.flatMap_cons, List.flatMap_nil, List.append_nil, Target.reads, Reads_append, Reads_cons, Reads_nil,
      and_true]
    exact ⟨hb.asdictOf (hb.oAttr f.name), hpaths (by simp [hk, isPath])⟩

theorem fieldStmts_entryOk (p : Char → Bool) (g : GIn) {sc : Scope} {asg : List S} (hb : Base sc asg)
    (hsv : Reads sc asg (condLocals p g.skipIf skipValue)) :
    ∀ (fs : List GField) (i : Nat), Reads sc asg (skipNames i fs) → Reads sc asg (fieldsLocals p true g i fs) →
      (fs.any (fun f => isPath f.key) = true → sc.readOk asg "paths".toList = true) →
      ∀ x ∈ fieldStmts p g i fs, x.EntryOk sc asg
  | [], _ => fun _ _ _ _ hx => by cases hx
  | f :: r, i => fun hsk hloc hpaths x hx => by
    rw [skipNames, Reads_cons] at hsk
    rw [fieldsLocals, Reads_append] at hloc
    rcases List.mem_append.1 hx with hx | hx
    · exact fieldStmt_entryOk p g i f hb hsk.1 (fun hp => hpaths (by simp [hp])) hloc.1 hsv x hx
    · exact fieldStmts_entryOk p g hb hsv r (i + 1) hsk.2 hloc.2 (fun hp => hpaths (by simp [hp])) x hx

theorem skipDefaultLines_entryOk (p : Char → Bool) (g : GIn) {sc : Scope} {asg : List S} (hb : Base sc asg)
    (hsdv : Reads sc asg (condLocals p g.skipDefaultsIf skipDefaultsValue)) :
    ∀ (fs : List GField) (i : Nat), Reads sc asg (skipNames i fs) → Reads sc asg (fieldsLocals p true g i fs) →
      ∀ x ∈ skipDefaultLines p g i fs, x.EntryOk sc asg
  | [], _ => fun _ _ _ hx => by cases hx
  | f :: r, i => fun hsk hloc x hx => by
    rw [skipNames, Reads_cons] at hsk
    rw [fieldsLocals, Reads_append] at hloc
    rcases List.mem_append.1 hx with hx | hx
    · obtain ⟨hd, hx⟩ := List.mem_ite_nil_right.1 hx
      rw [List.mem_singleton.1 hx]
      simp only [L1.EntryOk, L0.allReads, List.flatMap_cons, List.flatMap_nil, List.append_nil, Simple.reads, Expr.reads,
        Target.reads, Reads_append, Reads_cons, Reads_nil, and_true]
      refine ⟨hsk.1, ?_⟩
      unfold sdRhs
      cases hm : g.skipDefaultsIf with
      | some c => exact hb.final p c _ _ (readOk_condLocals hsdv c hm)
      | none =>
        simp only [Expr.reads, Reads_append, Reads_cons, Reads_nil, and_true]
        exact ⟨hb.oAttr _, hloc.1 _ (by simp [fieldLocals, hd, hm])⟩
    · exact skipDefaultLines_entryOk p g hb hsdv r (i + 1) hsk.2 hloc.2 x hx

/-- the names assigned once the `exclude` bookkeeping has run.  Every later statement reads only these, closure names and builtins,
so each later block is `EntryOk` at this list. -/
def known (g : GIn) : List S :=
  skipNames 0 g.fields ++ ((if g.hasPaths then ["paths".toList] else []) ++ "result".toList :: params)

theorem params_known (g : GIn) : ∀ n ∈ params, n ∈ known g := fun _ h =>
  List.mem_append_right _ (List.mem_append_right _ (List.mem_cons_of_mem _ h))

theorem paths_known (p : Char → Bool) (g : GIn) (h : g.hasPaths = true) : (genScope p g).readOk (known g) "paths".toList = true :=
  readOk_of_mem _ (List.mem_append_right _ (List.mem_append_left _ (List.mem_ite_nil_right.2 ⟨h, .head _⟩)))

theorem base_known (p : Char → Bool) (g : GIn) : Base (genScope p g) (known g) :=
  base_of p g _ (params_known g) (List.mem_append_right _ (List.mem_append_right _ List.mem_cons_self))

theorem reads_closure (p : Char → Bool) (g : GIn) (asg ns : List S) (h : ∀ X ∈ ns, X ∈ genLocals p g) :
    Reads (genScope p g) asg ns := fun X hX => readOk_closure p g asg (h X hX)

theorem sdBlock_entryOk (p : Char → Bool) (g : GIn) : ∀ x ∈ sdBlock p g, x.EntryOk (genScope p g) (known g) := by
  intro x hx
  have hl := skipDefaultLines_entryOk p g (base_known p g)
    (reads_closure p g _ _ fun X hX => (mem_genLocals p true g X).2 (Or.inr (Or.inr (Or.inl hX)))) g.fields 0
    (fun n hn => readOk_of_mem _ (List.mem_append_left _ hn))
    (reads_closure p g _ _ fun X hX => (mem_genLocals p true g X).2 (Or.inr (Or.inr (Or.inr (Or.inr (Or.inr (Or.inl hX)))))))
  cases hls : skipDefaultLines p g 0 g.fields with
  | nil => simp [sdBlock, hls] at hx
  | cons l ls =>
    simp only [sdBlock, hls, List.mem_singleton] at hx
    subst hx
    rw [← hls]
    simp only [L2.EntryOk]
    exact ⟨by simpa only [nm, Expr.reads, Reads_cons, Reads_nil, and_true] using
      readOk_of_mem (genScope p g) (params_known g _ (.tail _ (.tail _ (.tail _ (.head _))))), hl, by simp⟩

theorem fields_entryOk (p : Char → Bool) (g : GIn) : ∀ x ∈ fieldStmts p g 0 g.fields, x.EntryOk (genScope p g) (known g) :=
  fieldStmts_entryOk p g (base_known p g)
    (reads_closure p g _ _ fun X hX => (mem_genLocals p true g X).2 (Or.inr (Or.inl hX))) g.fields 0
    (fun n hn => readOk_of_mem _ (List.mem_append_left _ hn))
    (reads_closure p g _ _ fun X hX => (mem_genLocals p true g X).2 (Or.inr (Or.inr (Or.inr (Or.inr (Or.inr (Or.inl hX)))))))
    (fun hp => paths_known p g (by simp [GIn.hasPaths, hp]))

theorem tail_entryOk (p : Char → Bool) (g : GIn) : ∀ x ∈ tailStmts g, x.EntryOk (genScope p g) (known g) := by
  intro x hx
  have hr := (base_known p g).result
  have hdr : Reads (genScope p g) (known g) (Expr.call1 (nm "dict_factory") (nm "result")).reads :=
    Reads_cons.2 ⟨(base_known p g).dictFactory, Reads_cons.2 ⟨hr, Reads_nil.2 trivial⟩⟩
  cases ht : g.tagOn with
  | none =>
    simp only [tailStmts, ht, List.mem_singleton] at hx
    subst hx
    simpa only [entryOk_line, List.flatMap_cons, List.flatMap_nil, List.append_nil, Simple.reads] using hdr
  | some t =>
    simp only [tailStmts, ht, List.mem_cons, List.not_mem_nil, or_false] at hx
    rcases hx with rfl | rfl | rfl
    · simpa only [entryOk_line, List.flatMap_cons, List.flatMap_nil, List.append_nil, Simple.reads, Target.reads] using hdr
    · simpa only [entryOk_line, List.flatMap_cons, List.flatMap_nil, List.append_nil, Simple.reads, Target.reads, Expr.reads,
        List.nil_append, Reads_cons, Reads_nil, and_true] using hr
    · simpa only [entryOk_line, List.flatMap_cons, List.flatMap_nil, List.append_nil, Simple.reads, Expr.reads, nm, Reads_cons,
        Reads_nil, and_true] using hr

/-- the body as a sequence of pieces: the `__pre_dict__(o)` call, two lines that each bind a name the later ones read (`result`,
`paths`), the `exclude` test that binds every `_skip_<i>`, and then blocks that read only what is bound by then -/
theorem genBody_step (p : Char → Bool) (g : GIn) : Step (genScope p g) params (known g) (genBody p g) := by
  unfold genBody
  -- one `Step.append` for each `++` of `genBody`, nested to the left as they are; `w'` is what is known assigned between the two
  refine Step.append (w' := known g) (Step.append (w' := known g)
    (Step.append (w' := (if g.hasPaths then ["paths".toList] else []) ++ "result".toList :: params)
      (Step.append (w' := "result".toList :: params) (Step.append (w' := params) ?pre ?result) ?paths) ?exclude)
    (Step.of_entryOk ?merge)) (Step.of_entryOk (tail_entryOk p g))
  case pre =>
    refine Step.opt _ (fun h => Step.line ?_) (fun _ _ hn => hn)
    simp only [List.flatMap_cons, List.flatMap_nil, List.append_nil, Simple.reads, Expr.reads, nm, Reads_append, Reads_cons,
      Reads_nil, and_true]
    exact ⟨readOk_closure p g _ ((mem_genLocals p true g _).2
      (.inr (.inr (.inr (.inl (List.mem_ite_nil_right.2 ⟨h, .head _⟩)))))), readOk_of_mem _ (.head _)⟩
  case result => exact Step.line (by simp [Simple.reads, Expr.reads, Target.reads])
  case paths =>
    refine Step.opt _ (fun h => ?_) (fun h => by simp [h])
    simp only [h, if_true]
    refine Step.line ?_
    simp only [List.flatMap_cons, List.flatMap_nil, List.append_nil, Simple.reads, Expr.reads, nm, Target.reads, Reads_cons,
      Reads_nil, and_true]
    exact readOk_closure p g _ ((mem_genLocals p true g _).2
      (.inr (.inr (.inr (.inr (.inl (List.mem_ite_nil_right.2 ⟨h, .head _⟩)))))))
  case exclude =>
    cases hemp : g.fields.isEmpty with
    | true =>
      have hfs : g.fields = [] := List.isEmpty_iff.1 hemp
      exact fun a ha => ⟨a, rfl, fun n hn => ha n (by rw [known, hfs] at hn; exact hn)⟩
    | false =>
      refine Step.append (w' := known g) (Step.append (w' := known g) ?_ (Step.of_entryOk (sdBlock_entryOk p g)))
        (Step.of_entryOk (fields_entryOk p g))
      have he : (genScope p g).readOk ((if g.hasPaths then ["paths".toList] else []) ++ "result".toList :: params)
          "exclude".toList = true := readOk_of_mem _ (List.mem_append_right _ (.tail _ (.tail _ (.tail _ (.head _)))))
      -- both branches of the `exclude` test assign every `_skip_<i>`
      refine Step.ifElse (ws := skipNames 0 g.fields) ?_ ?_ ?_ ?_ ?_
      · simpa only [Expr.reads, nm, List.append_nil, Reads_cons, Reads_nil, and_true] using he
      · simp only [L0.allReads, List.flatMap_cons, List.flatMap_nil, Simple.reads, Expr.reads, skipTargets_reads, List.append_nil,
          Reads_nil]
      · exact fun n hn => by rw [excludeAssigns_reads p _ 0 n hn]; exact he
      · simp [L0.writes, Simple.writes, skipTargets_writes]
      · simp [L0.writes, excludeAssigns_writes]
  case merge =>
    intro x hx
    obtain ⟨hp, hx⟩ := List.mem_ite_nil_right.1 hx
    rw [List.mem_singleton.1 hx]
    have hpa := paths_known p g hp
    have hr := (base_known p g).result
    simp only [entryOk_line, List.flatMap_cons, List.flatMap_nil, List.append_nil, Simple.reads, Expr.reads, Target.reads, nm,
      Reads_append, Reads_cons, Reads_nil, and_true]
    exact ⟨⟨hr, hpa, hr⟩, hpa⟩

theorem wellScoped_all (p : Char → Bool) (g : GIn) : wellScoped p g = true :=
  have ⟨out, h, _⟩ := genBody_step p g params fun _ hn => hn
  Option.isSome_iff_exists.2 ⟨out, h⟩

end DW.GenDump
