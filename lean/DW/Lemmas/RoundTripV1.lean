/- The structural dump/load round trip of the **v1** engine below a main class whose Meta makes the load key case match
the dump key transform (a `Setup`), over the same fragment as `DW.RT` plus bytes / bytearray: the induction behind
`C02_roundtrip_struct`. After `roundtrip_root`: the six configurations of the property as `Setup`s, the class condition in
syntactic form (`Unaliased`, one `plain_*` per configuration) and the model of `C02_roundtrip_example`. -/
import DW.Model.LoadV1
import DW.Lemmas.RoundTrip
import DW.Lemmas.TaggedV1

namespace DW.RTV1
-- From `DW.RT` come the engine-free parts (the dump side, the conversions both engines call, list facts, and the steps stated over any
-- element loader: `inst_dumped`, `tdWith_dumped`); `ClsOK`, `Conf`, `rt_*`, `cls_roundtrip`, `roundtrip` … are this namespace's own.
open DW DW.RT DW.Str DW.Tagged
open DW.Props.C05 (fieldWith tdWith v1Field_eq v1Td_eq)

/-- the Meta of a v1 main class together with the key function on which its dump transform and its load key case agree:
what the theorem needs to know about the configuration -/
structure Setup where
  m : MetaCfg
  kf : S → S
  effNested : effMeta none (some m) = m          -- a nested class without Meta runs under the root's settings
  effSelf : effMeta (some m) (some m) = m
  rootCfg : rootConfig (some m) = some m         -- the Meta travels (recursive is not False)
  sd : m.skipDefaults.getD false = false
  sdi : m.skipDefaultsIf = none
  si : m.skipIf = none
  tag : m.tag = none
  ts : m.marshalTimestamp.getD false = false
  noRaise : (m.v1OnUnknown == some KeyAct.raise) = false

variable {su : Setup}

local notation "mV1" => Setup.m su
local notation "cV1" => (some (Setup.m su) : Option MetaCfg)

theorem eff_nested : effMeta none cV1 = mV1 := su.effNested
theorem eff_of (own : Option MetaCfg) (h : own = none ∨ own = some mV1) : effMeta own cV1 = mV1 := by
  rcases h with rfl | rfl
  · exact su.effNested
  · exact su.effSelf
theorem eff_root : effMeta (some mV1) none = mV1 := rfl
theorem root_cfg : rootConfig (some mV1) = cV1 := su.rootCfg

/-- the effective Meta of a class below the root: the root's settings plus the class's own tag (never inherited). `dumpKey`,
`v1Keys`, the skip rules and the unknown-key policy do not read `tag`, so what holds of them at `su.m` holds at `effT su tg`
by unfolding. -/
abbrev effT (su : Setup) (tg : Option S) : MetaCfg := { su.m with tag := tg }

theorem effT_none (su : Setup) : effT su none = su.m := by
  -- `{ m with tag := m.tag }` is `m`
  rw [← su.tag]

/-- a dataclass whose only customisation of its own is a tag `tg` (none = untagged), and whose keys — the same function `kf`
of the field name on the dump side and as the first key tried on the load side — are pairwise distinct; a tagged class is
known to the Union dispatch under the tag its dumper writes, and its tag key is none of its field keys -/
structure ClsOK (su : Setup) (ci : ClassInfo) (ftys : List (S × Ty)) (tg : Option S) : Prop where
  effOk : effMeta ci.cmeta (some su.m) = effT su tg
  names : ci.fields.map (·.name) = ftys.map (·.1)
  nodup : (ci.fields.map (·.name)).Nodup
  plain : ∀ f ∈ ci.fields, f.init = true ∧ f.isCatchAll = false ∧ f.dumpSkip = false ∧ f.skipIf = none
  dkey : ∀ f ∈ ci.fields, dumpKey su.m f = .ok (su.kf f.name)
  lkey : ∀ f ∈ ci.fields, ∃ rest, v1Keys su.m f = su.kf f.name :: rest
  keysNodup : (ci.fields.map (fun f => su.kf f.name)).Nodup
  member : ∀ t, tg = some t → memberTag (some su.m) ci = some t
  tagKeyFresh : ∀ t, tg = some t → ∀ f ∈ ci.fields, su.kf f.name ≠ tagKeyOf su.m

/-- an untagged class of the fragment -/
abbrev PlainCls (su : Setup) (ci : ClassInfo) (ftys : List (S × Ty)) : Prop := ClsOK su ci ftys none

/-- value `v` conforms to type `t`, for the fragment of `C02_roundtrip_struct` -/
inductive Conf (su : Setup) (std : Std) : Ty → PyVal → Prop
  | int (i : Int) : Conf su std .int (.int i)
  | float (f : PyFloat) : Conf su std .float (.float f)
  | leaf (k : LeafKind) (t : S) : std.validTok k t = true → Conf su std (.leaf k) (.leaf k false t)
  | timedelta (us : Int) : 0 ≤ us → Conf su std .timedelta (.timedelta us)
  | enum (name : S) (members : List (S × Lit)) (m : S) (v : Lit) : (m, v) ∈ members → jEqLit v.toJ v = true →
      (∀ m' ∈ members, jEqLit v.toJ m'.2 = true → m' = (m, v)) → Conf su std (.enum name members) (.enum name m v)
  | str (s : S) : Conf su std .str (.str s)
  | bool (b : Bool) : Conf su std .bool (.bool b)
  | optNone (t : Ty) : Conf su std (.optional t) .none
  | optSome (t : Ty) (v : PyVal) : nonNullTy t = true → Conf su std t v → Conf su std (.optional t) v
  | list (t : Ty) (xs : List PyVal) : (∀ x ∈ xs, Conf su std t x) → Conf su std (.seq .list t) (.seq .list xs)
  | deque (t : Ty) (xs : List PyVal) : (∀ x ∈ xs, Conf su std t x) → Conf su std (.seq .deque t) (.seq .deque xs)
  | vtuple (t : Ty) (xs : List PyVal) : (∀ x ∈ xs, Conf su std t x) → Conf su std (.vtuple t) (.tuple xs)
  | dict (t : Ty) (kvs : List (S × PyVal)) : (kvs.map (·.1)).Nodup → (∀ p ∈ kvs, Conf su std t p.2) →
      Conf su std (.map .dict .str t) (.map .dict (kvs.map (fun p => (.str p.1, p.2))))
  | inst (ci : ClassInfo) (ftys : List (S × Ty)) (vals : List PyVal) (tg : Option S) : ClsOK su ci ftys tg →
      vals.length = ftys.length → (∀ p ∈ ftys.zip vals, Conf su std p.1.2 p.2) →
      Conf su std (.cls ci ftys) (.inst ci ((ftys.map (·.1)).zip vals))
  | unionTagged (pre post : List Ty) (ci : ClassInfo) (ftys : List (S × Ty)) (vals : List PyVal) (tg : S) :
      ClsOK su ci ftys (some tg) → vals.length = ftys.length → (∀ p ∈ ftys.zip vals, Conf su std p.1.2 p.2) →
      (∀ t ∈ pre, tagOf (some su.m) t ≠ some tg) → (∀ t ∈ post, tagOf (some su.m) t ≠ some tg) →
      Conf su std (.union (pre ++ .cls ci ftys :: post)) (.inst ci ((ftys.map (·.1)).zip vals))
  | unionNone (ts : List Ty) : ts.any isNoneTy = true → Conf su std (.union ts) .none
  | bytes (b : List Nat) : Conf su std .bytes (.bytes false b)
  | bytearray (b : List Nat) : Conf su std .bytearray (.bytes true b)
  | set (t : Ty) (xs : List PyVal) : xs.all PyVal.hashable = true → dedupKeep xs = xs → (∀ x ∈ xs, Conf su std t x) →
      Conf su std (.seq .set t) (.seq .set xs)
  | frozenset (t : Ty) (xs : List PyVal) : xs.all PyVal.hashable = true → dedupKeep xs = xs → (∀ x ∈ xs, Conf su std t x) →
      Conf su std (.seq .frozenset t) (.seq .frozenset xs)
  | tuple (ts : List Ty) (xs : List PyVal) : ts ≠ [] → xs.length = ts.length → (∀ p ∈ ts.zip xs, Conf su std p.1 p.2) →
      Conf su std (.tuple ts) (.tuple xs)
  | defaultdict (t : Ty) (kvs : List (S × PyVal)) : (kvs.map (·.1)).Nodup → (∀ p ∈ kvs, Conf su std t p.2) →
      Conf su std (.map .defaultdict .str t) (.map .defaultdict (kvs.map (fun p => (.str p.1, p.2))))
  | ordereddict (t : Ty) (kvs : List (S × PyVal)) : (kvs.map (·.1)).Nodup → (∀ p ∈ kvs, Conf su std t p.2) →
      Conf su std (.map .ordereddict .str t) (.map .ordereddict (kvs.map (fun p => (.str p.1, p.2))))
  | literal (vs : List Lit) (l : Lit) : l ∈ vs → jEqLit l.toJ l = true → Conf su std (.literal vs) l.toPy
  | ntuple (name : S) (fields : List (S × Ty × Option Dflt)) (xs : List PyVal) : xs.length = fields.length →
      (∀ p ∈ (fields.map (·.2.1)).zip xs, Conf su std p.1 p.2) →
      Conf su std (.ntuple name fields) (.ntuple name (fields.map (·.1)) xs)
  | typeddict (name : S) (fields : List (S × Ty × Bool)) (vals : List (Option PyVal)) :
      (fields.map (·.1)).Nodup → vals.length = fields.length →
      (∀ p ∈ fields.zip vals, p.2 = none → p.1.2.2 = false) →
      (∀ p ∈ fields.zip vals, ∀ v, p.2 = some v → Conf su std p.1.2.1 v) →
      Conf su std (.typeddict name fields) (.map .dict ((tdPresent fields vals).map (fun p => (.str p.1, p.2))))

/-- the round-trip statement for one value below the v1 root; by unfolding it is
`Undoes std false (some su.m) (loadV1 std (some su.m) t) v` -/
def RT1 (su : Setup) (std : Std) (t : Ty) (v : PyVal) : Prop :=
  ∀ d, dumpV std false (some su.m) v = .ok d → loadV1 std (some su.m) t (toJ d) = .ok v

theorem rt_int (std : Std) (i : Int) : RT1 su std .int (.int i) := by
  intro d h; rw [dumpV_int] at h; cases h; rfl
theorem rt_float (std : Std) (f : PyFloat) : RT1 su std .float (.float f) := by
  intro d h; rw [dumpV_float] at h; cases h; rfl
theorem rt_str (std : Std) (s : S) : RT1 su std .str (.str s) := by
  intro d h; rw [dumpV_str] at h; cases h; rfl
theorem rt_bool (std : Std) (b : Bool) : RT1 su std .bool (.bool b) := by
  intro d h; rw [dumpV_bool] at h; cases h; rfl
theorem rt_optNone (std : Std) (t : Ty) : RT1 su std (.optional t) .none := by
  intro d h; rw [dumpV_none] at h; cases h; rfl

theorem loadV1_leafText (std : Std) (laws : StdLaws std) (cfg : Option MetaCfg) (k : LeafKind) (t : S)
    (ht : std.validTok k t = true) : loadV1 std cfg (.leaf k) (.str (leafText k t)) = .ok (.leaf k false t) := by
  cases k <;> unfold loadV1
  · simp only [leafText, v1Decimal, laws.decimal_rt t ht]; rfl
  · simp only [leafText, v1Path, laws.path_rt t ht]; rfl
  · simp only [leafText, v1Uuid, laws.uuid_rt t ht]; rfl
  · simp only [leafText, v1Date, laws.date_rt t ht]; rfl
  · simp only [leafText, v1Time, laws.time_rt_z t ht]; rfl
  · simp only [leafText, v1Datetime, laws.datetime_rt_z t ht]; rfl

theorem rt_leaf (std : Std) (laws : StdLaws std) (k : LeafKind) (t : S) (ht : std.validTok k t = true) :
    RT1 su std (.leaf k) (.leaf k false t) := by
  intro d h
  rw [dumpV_leaf] at h; cases h
  exact loadV1_leafText std laws cV1 k t ht

theorem rt_timedelta (std : Std) (laws : StdLaws std) (us : Int) (h0 : 0 ≤ us) : RT1 su std .timedelta (.timedelta us) := by
  intro d h
  rw [dumpV_timedelta] at h; cases h
  rw [toJ_str]
  unfold loadV1
  rw [v1Timedelta, asTimedelta_tdStr std laws us h0]
  rfl

theorem rt_enum (std : Std) (name : S) (members : List (S × Lit)) (m : S) (v : Lit) (hm : (m, v) ∈ members)
    (hrefl : jEqLit v.toJ v = true) (huniq : ∀ m' ∈ members, jEqLit v.toJ m'.2 = true → m' = (m, v)) :
    RT1 su std (.enum name members) (.enum name m v) := by
  intro d h
  rw [dumpV_enum] at h; cases h
  rw [toJ_litToD]
  unfold loadV1
  rw [v1Enum, asEnum_unique name members m v hm hrefl huniq]
  rfl

theorem loadV1_optional_nonnull (std : Std) (cfg : Option MetaCfg) (t : Ty) (o : JVal) (h : o ≠ .null) :
    loadV1 std cfg (.optional t) o = loadV1 std cfg t o := by
  cases o with
  | null => exact absurd rfl h
  | _ => rfl

/-- in every case either the value is visibly of a form whose dump is not null, or the type is visibly not `nonNullTy` -/
theorem Conf.nonNull {std : Std} {t : Ty} {v : PyVal} (hc : Conf su std t v) (hn : nonNullTy t = true) :
    nonNullVal v = true := by
  cases hc <;> first | rfl | cases hn

theorem rt_optSome (std : Std) (t : Ty) (v : PyVal) (hv : nonNullVal v = true) (ih : RT1 su std t v) :
    RT1 su std (.optional t) v := by
  intro d h
  rw [loadV1_optional_nonnull std cV1 t (toJ d) (dump_nonnull std cV1 v hv d h)]
  exact ih d h

theorem rt_seq (std : Std) (k : SeqKind) (t : Ty) (xs : List PyVal) (hmk : mkSeq k xs = .ok (.seq k xs))
    (ih : ∀ x ∈ xs, RT1 su std t x) : RT1 su std (.seq k t) (.seq k xs) := by
  intro d h
  rw [dumpV_seq] at h
  obtain ⟨ds, hd, rfl⟩ := Except.map_eq_ok.1 h
  rw [toJ_list]
  unfold loadV1
  simp only [jIter, mapME_dumpList std false cV1 _ xs ds ih hd, hmk, bind, Except.bind, Except.mapError]

theorem rt_vtuple (std : Std) (t : Ty) (xs : List PyVal) (ih : ∀ x ∈ xs, RT1 su std t x) : RT1 su std (.vtuple t) (.tuple xs) := by
  intro d h
  rw [dumpV_tuple] at h
  obtain ⟨ds, hd, rfl⟩ := Except.map_eq_ok.1 h
  rw [toJ_tuple]
  unfold loadV1
  simp only [jIter, mapME_dumpList std false cV1 _ xs ds ih hd, bind, Except.bind, pure, Except.pure]

theorem rt_map (std : Std) (k : MapKind) (t : Ty) (kvs : List (S × PyVal)) (hnd : (kvs.map (·.1)).Nodup)
    (ih : ∀ p ∈ kvs, RT1 su std t p.2) : RT1 su std (.map k .str t) (.map k (kvs.map pyPair)) := by
  intro d h
  rw [dumpV_map] at h
  obtain ⟨ps, hd, rfl⟩ := Except.map_eq_ok.1 h
  rw [toJ_dict]
  unfold loadV1
  simp only [bind, Except.bind]
  rw [mapME_dumpPairs std false cV1 _ (loadV1 std cV1 t)
    (fun k j v hv => by simp only [hv]; rfl) kvs ps ih hd]
  simp only [mkMap_pyPair k kvs hnd, Except.mapError]

theorem loadV1_b64 (std : Std) (laws : StdLaws std) (cfg : Option MetaCfg) (m : Bool) (b : List Nat) :
    loadV1 std cfg (if m then .bytearray else .bytes) (.str (std.b64encode b)) = .ok (.bytes m b) := by
  have h : v1Bytes std m (.str (std.b64encode b)) = .ok (.bytes m b) := by rw [v1Bytes, laws.b64_rt b]; rfl
  -- `loadV1` at `bytes` / `bytearray` is `v1Bytes` with that flag
  cases m <;> exact h

theorem rt_bytes (std : Std) (laws : StdLaws std) (m : Bool) (b : List Nat) :
    RT1 su std (if m then .bytearray else .bytes) (.bytes m b) := by
  intro d h; rw [dumpV_bytes] at h; cases h
  exact loadV1_b64 std laws cV1 m b

/-- the generated element expressions `e_k(v1[k])` of a fixed-length tuple, from position `pre.length` on -/
theorem v1Tuple_ok (std : Std) : ∀ (ts : List Ty) (xs : List PyVal) (ds : List DVal) (pre : List JVal), xs.length = ts.length →
    (∀ p ∈ ts.zip xs, RT1 su std p.1 p.2) → dumpList std false cV1 xs = .ok ds →
    v1Tuple std cV1 ts pre.length (.list (pre ++ toJList ds)) = .ok xs := by
  intro ts xs ds pre hl ih h
  induction ts generalizing xs ds pre with
  | nil =>
    cases List.length_eq_zero_iff.1 hl
    cases (dumpList_nil_ok std false cV1).1 h; rfl
  | cons t ts iht =>
    cases xs with
    | nil => cases hl
    | cons x xs =>
      obtain ⟨y, hy, ys, hys, rfl⟩ := (dumpList_cons_ok std false cV1).1 h
      rw [List.zip_cons_cons, List.forall_mem_cons] at ih
      have hidx : jIndex (.list (pre ++ toJList (y :: ys))) pre.length = some (toJ y) := by
        simp [jIndex, toJList]
      -- the rest is read from position `pre.length + 1` on, past `toJ y`
      have hrest : v1Tuple std cV1 ts (pre.length + 1) (.list (pre ++ toJList (y :: ys))) = .ok xs := by
        simpa [toJList] using iht xs ys (pre ++ [toJ y]) (Nat.succ.inj hl) ih.2 hys
      unfold v1Tuple
      rw [hidx]
      simp only [ih.1 y hy, hrest, bind, Except.bind, pure, Except.pure]

theorem rt_tuple (std : Std) (ts : List Ty) (xs : List PyVal) (hne : ts ≠ []) (hl : xs.length = ts.length)
    (ih : ∀ p ∈ ts.zip xs, RT1 su std p.1 p.2) : RT1 su std (.tuple ts) (.tuple xs) := by
  intro d h
  rw [dumpV_tuple] at h
  obtain ⟨ds, hd, rfl⟩ := Except.map_eq_ok.1 h
  have hemp : ts.isEmpty = false := List.isEmpty_eq_false_iff.2 hne
  have h0 := v1Tuple_ok std ts xs ds [] hl ih hd
  simp only [List.length_nil, List.nil_append] at h0
  rw [toJ_tuple, ← toJList_eq_map]
  unfold loadV1
  simp only [hemp, Bool.false_eq_true, if_false, h0, bind, Except.bind, pure, Except.pure]

theorem litJ_toPy (l : Lit) : l.toJ.toPy = l.toPy := by
  cases l <;> rfl

theorem rt_literal (std : Std) (vs : List Lit) (l : Lit) (hm : l ∈ vs) (hr : jEqLit l.toJ l = true) :
    RT1 su std (.literal vs) l.toPy := by
  intro d h
  rw [dumpV_lit] at h; cases h
  rw [toJ_litToD]
  unfold loadV1 v1Literal
  have hst : jSameType l.toJ l = true := by cases l <;> rfl
  have hany : vs.any (fun l' => jEqLit l.toJ l' && jSameType l.toJ l') = true :=
    List.any_eq_true.2 ⟨l, hm, by rw [hr, hst]; rfl⟩
  simp only [lit_hashable, Bool.not_true, Bool.false_eq_true, if_false, hany, if_true, litJ_toPy, pure, Except.pure]

theorem v1NtSeq_of_v1Tuple (std : Std) (cfg : Option MetaCfg) (name : S) (n : Nat) (o : JVal)
    (fields : List (S × Ty × Option Dflt)) (k : Nat) (xs : List PyVal) (hk : k + fields.length ≤ n)
    (h : v1Tuple std cfg (fields.map (·.2.1)) k o = .ok xs) : v1NtSeq std cfg name fields k n o = .ok xs := by
  induction fields generalizing k xs with
  | nil => exact h
  | cons f fs ih =>
    obtain ⟨fname, t, d⟩ := f
    rw [List.length_cons] at hk
    rw [List.map_cons] at h
    unfold v1Tuple at h
    unfold v1NtSeq
    rw [if_pos (by omega)]
    cases hi : jIndex o k with
    | none => rw [hi] at h; cases o <;> cases h
    | some x =>
      rw [hi] at h
      obtain ⟨y, hy, h⟩ := Except.bind_eq_ok.1 h
      obtain ⟨ys, hys, h⟩ := Except.bind_eq_ok.1 h
      cases h
      simp only [hy, ih (k + 1) ys (by omega) hys, bind, Except.bind, pure, Except.pure]

theorem rt_ntuple (std : Std) (name : S) (fields : List (S × Ty × Option Dflt)) (xs : List PyVal)
    (hl : xs.length = fields.length) (ih : ∀ p ∈ (fields.map (·.2.1)).zip xs, RT1 su std p.1 p.2) :
    RT1 su std (.ntuple name fields) (.ntuple name (fields.map (·.1)) xs) := by
  intro d h
  rw [dumpV_ntuple] at h
  obtain ⟨ds, hd, rfl⟩ := Except.map_eq_ok.1 h
  have h0 := v1NtSeq_of_v1Tuple std cV1 name ds.length _ fields 0 xs
    (by rw [Nat.zero_add, dumpList_length std false cV1 xs ds hd, hl]; exact Nat.le_refl _)
    (v1Tuple_ok std _ xs ds [] (by rw [hl, List.length_map]) ih hd)
  rw [List.nil_append] at h0
  rw [toJ_ntuple, ← toJList_eq_map]
  unfold loadV1
  simp only [jLen, toJList_length, h0, bind, Except.bind, hl, List.drop_length, List.filterMap_nil, List.append_nil,
    pure, Except.pure]

theorem rt_typeddict (std : Std) (name : S) (fields : List (S × Ty × Bool)) (vals : List (Option PyVal))
    (hnd : (fields.map (·.1)).Nodup) (hl : vals.length = fields.length)
    (hopt : ∀ p ∈ fields.zip vals, p.2 = none → p.1.2.2 = false)
    (ih : ∀ p ∈ fields.zip vals, ∀ v, p.2 = some v → RT1 su std p.1.2.1 v) :
    RT1 su std (.typeddict name fields) (.map .dict ((tdPresent fields vals).map pyPair)) := by
  intro d h
  obtain ⟨J, htj, hload⟩ := tdWith_dumped std cV1 (loadV1 std cV1) fields vals hnd hl hopt ih d h
  rw [htj]
  unfold loadV1
  simp only [v1Td_eq, hload]
  rfl

/-- the v1 loop goes by field, not by key: with every dumped pair of `F` in `body` (keys distinct) each lookup finds that pair,
whatever `sfx` (the tag entry) holds, and the loop returns the field names zipped with the values -/
theorem v1Fields_ok (std : Std) (ci : ClassInfo) (tg : Option S) (body sfx : List (S × JVal))
    (hnd : (body.map (·.1)).Nodup) (L : S → JVal → LRes) (F : List FieldInfo) (vals : List PyVal) (ds : List DVal)
    (hpl : ∀ f ∈ F, f.init = true ∧ f.isCatchAll = false ∧ ∃ rest, v1Keys mV1 f = su.kf f.name :: rest)
    (hl : vals.length = F.length) (h : dumpList std false cV1 vals = .ok ds)
    (hmem : ∀ p ∈ (F.map (fun f => su.kf f.name)).zip (ds.map toJ), p ∈ body)
    (hL : ∀ p ∈ (F.map (·.name)).zip vals, ∀ d, dumpV std false cV1 p.2 = .ok d → L p.1 (toJ d) = .ok p.2) :
    v1Fields L (effT su tg) ci (body ++ sfx) F = .ok ((F.map (·.name)).zip vals, F.length) := by
  induction F generalizing vals ds with
  | nil => cases List.length_eq_zero_iff.1 hl; rfl
  | cons f F ih =>
    cases vals with
    | nil => cases hl
    | cons v vals =>
      obtain ⟨d, hd, ds', hds, rfl⟩ := (dumpList_cons_ok std false cV1).1 h
      obtain ⟨⟨hinit, hca, rest, hkeys0⟩, hpl⟩ := List.forall_mem_cons.1 hpl
      rw [List.map_cons, List.map_cons, List.zip_cons_cons, List.forall_mem_cons] at hmem
      rw [List.map_cons, List.zip_cons_cons, List.forall_mem_cons] at hL
      -- the first entry under the key is the one in `body`, whatever `sfx` holds
      have hfind : (body ++ sfx).find? (fun kv => kv.1 == su.kf f.name) = some (su.kf f.name, toJ d) := by
        rw [List.find?_append, find_unique (fun kv : S × JVal => kv.1) body (su.kf f.name, toJ d) hnd hmem.1]
        rfl
      have hkeys : v1Keys (effT su tg) f = su.kf f.name :: rest := hkeys0
      rw [v1Fields]
      simp only [hinit, hca, Bool.not_true, Bool.or_false, Bool.false_eq_true, if_false, hkeys, lookupFirst, hfind]
      simp only [hL.1 d hd, Except.mapError, bind, Except.bind, ih vals ds' hpl (Nat.succ.inj hl) hds hmem.2 hL.2, pure,
        Except.pure, List.map_cons, List.length_cons, List.zip_cons_cons]

theorem v1Finish_ok (ci : ClassInfo) (ftys : List (S × Ty)) (tg : Option S) (hp : ClsOK su ci ftys tg) (kvs : List (S × JVal))
    (K : List (S × PyVal)) (n : Nat) (hK : K.map (·.1) = ci.fields.map (·.name)) :
    v1Finish (effT su tg) ci kvs K n = .ok (.inst ci K) := by
  have hraise : ((effT su tg).v1OnUnknown == some KeyAct.raise) = false := su.noRaise
  simp only [v1Finish, hraise, Bool.and_false, Bool.false_and, Bool.false_eq_true, if_false, v1WithCatchAll,
    noCatchAll ci fun f hf => (hp.plain f hf).2.1]
  exact finishKw_ok ci hp.nodup (fun f hf => (hp.plain f hf).1) K hK

/-- the generated v1 function of a class of the fragment (tagged or not) reads back what the class's dumper wrote -/
theorem cls_roundtrip (std : Std) (ci : ClassInfo) (ftys : List (S × Ty)) (vals : List PyVal) (tg : Option S)
    (hp : ClsOK su ci ftys tg) (hlen : vals.length = ftys.length) (ih : ∀ p ∈ ftys.zip vals, RT1 su std p.1.2 p.2)
    (d : DVal) (h : dumpV std false cV1 (.inst ci ((ftys.map (·.1)).zip vals)) = .ok d) :
    ∃ js, toJ d = .dict ((ci.fields.map (fun f => su.kf f.name)).zip js ++ tagSfx (effT su tg) tg) ∧
      v1ClassWith (fun f v => v1Field std cV1 f v ftys) (effT su tg) ci (toJ d) = .ok (.inst ci ((ftys.map (·.1)).zip vals)) := by
  obtain ⟨ds, hds, hl', htj, hL⟩ := inst_dumped std cV1 ci ftys vals (by rw [hp.effOk]; exact ⟨su.sd, su.sdi, su.si, su.ts⟩) hp.names
    hp.nodup (fun f hf => (hp.plain f hf).2) (fun f => su.kf f.name) (fun f hf => by rw [hp.effOk]; exact hp.dkey f hf)
    hlen (loadV1 std cV1) ih d h
  rw [hp.effOk] at htj
  have hnd : (((ci.fields.map (fun f => su.kf f.name)).zip (ds.map toJ)).map (·.1)).Nodup := by
    rw [List.map_fst_zip (by simp [dumpList_length std false cV1 vals ds hds, hl'])]
    exact hp.keysNodup
  have hF := v1Fields_ok std ci tg _ (tagSfx (effT su tg) tg) hnd (fun f v => v1Field std cV1 f v ftys) ci.fields vals ds
    (fun f hf => ⟨(hp.plain f hf).1, (hp.plain f hf).2.1, hp.lkey f hf⟩) hl' hds (fun _ hp' => hp')
    (fun p hp' d hd => (v1Field_eq std cV1 _ _ ftys).trans (hL p hp' d hd))
  refine ⟨_, htj, ?_⟩
  rw [htj, ← hp.names]
  simp only [v1ClassWith, hF, bind, Except.bind]
  exact v1Finish_ok ci ftys tg hp _ _ _ (List.map_fst_zip (by simp [hl']))

theorem rt_inst (std : Std) (ci : ClassInfo) (ftys : List (S × Ty)) (vals : List PyVal) (tg : Option S)
    (hp : ClsOK su ci ftys tg) (hlen : vals.length = ftys.length) (ih : ∀ p ∈ ftys.zip vals, RT1 su std p.1.2 p.2) :
    RT1 su std (.cls ci ftys) (.inst ci ((ftys.map (·.1)).zip vals)) := by
  intro d h
  obtain ⟨_, _, hload⟩ := cls_roundtrip std ci ftys vals tg hp hlen ih d h
  unfold loadV1
  rw [hp.effOk]
  exact hload

/-- a tagged dataclass inside a Union (v1): the dump carries the tag, the generated Union helper dispatches on it —
whatever the other members are, as long as none answers to the same tag — and the member's own function reads the rest -/
theorem rt_unionTagged (std : Std) (pre post : List Ty) (ci : ClassInfo) (ftys : List (S × Ty))
    (vals : List PyVal) (tg : S) (hp : ClsOK su ci ftys (some tg)) (hlen : vals.length = ftys.length)
    (ih : ∀ p ∈ ftys.zip vals, RT1 su std p.1.2 p.2)
    (hpre : ∀ t ∈ pre, tagOf (some su.m) t ≠ some tg) (hpost : ∀ t ∈ post, tagOf (some su.m) t ≠ some tg) :
    RT1 su std (.union (pre ++ .cls ci ftys :: post)) (.inst ci ((ftys.map (·.1)).zip vals)) := by
  intro d h
  obtain ⟨js, htj, hload⟩ := cls_roundtrip std ci ftys vals (some tg) hp hlen ih d h
  rw [htj] at hload ⊢
  have hfind := find_tagSfx (effT su (some tg)) tg (ci.fields.map (fun f => su.kf f.name)) js (fun hmem => by
    obtain ⟨f, hf, hfk⟩ := List.mem_map.1 hmem
    exact hp.tagKeyFresh tg rfl f hf hfk)
  rw [v1_dispatch_core std (some su.m) tg pre post ci ftys _ (hp.member tg rfl) hpre hpost hfind, hp.effOk]
  exact hload

theorem rt_unionNone (std : Std) (ts : List Ty) (h : ts.any isNoneTy = true) : RT1 su std (.union ts) .none := by
  intro d hd; rw [dumpV_none] at hd; cases hd
  exact if_pos (Bool.and_eq_true_iff.2 ⟨rfl, h⟩)

theorem roundtrip (std : Std) (laws : StdLaws std) (t : Ty) (v : PyVal) (hc : Conf su std t v) : RT1 su std t v := by
  induction hc with
  | int i => exact rt_int std i
  | float f => exact rt_float std f
  | leaf k t ht => exact rt_leaf std laws k t ht
  | timedelta us h0 => exact rt_timedelta std laws us h0
  | enum name members m v hm hr hu => exact rt_enum std name members m v hm hr hu
  | str s => exact rt_str std s
  | bool b => exact rt_bool std b
  | optNone t => exact rt_optNone std t
  | optSome t v hn hc ih => exact rt_optSome std t v (hc.nonNull hn) ih
  | list t xs _ ih => exact rt_seq std .list t xs rfl ih
  | deque t xs _ ih => exact rt_seq std .deque t xs rfl ih
  | vtuple t xs _ ih => exact rt_vtuple std t xs ih
  | dict t kvs hnd _ ih => exact rt_map std .dict t kvs hnd ih
  | inst ci ftys vals tg hp hlen _ ih => exact rt_inst std ci ftys vals tg hp hlen ih
  | unionTagged pre post ci ftys vals tg hp hlen _ hpre hpost ih => exact rt_unionTagged std pre post ci ftys vals tg hp hlen ih hpre hpost
  | unionNone ts h => exact rt_unionNone std ts h
  | bytes b => exact rt_bytes std laws false b
  | bytearray b => exact rt_bytes std laws true b
  | set t xs hh hd _ ih => exact rt_seq std .set t xs (mkSeq_of_dedup _ xs hh hd) ih
  | frozenset t xs hh hd _ ih => exact rt_seq std .frozenset t xs (mkSeq_of_dedup _ xs hh hd) ih
  | tuple ts xs hne hl _ ih => exact rt_tuple std ts xs hne hl ih
  | defaultdict t kvs hnd _ ih => exact rt_map std .defaultdict t kvs hnd ih
  | ordereddict t kvs hnd _ ih => exact rt_map std .ordereddict t kvs hnd ih
  | literal vs l hm hr => exact rt_literal std vs l hm hr
  | ntuple name fields xs hl _ ih => exact rt_ntuple std name fields xs hl ih
  | typeddict name fields vals hnd hl hopt _ ih => exact rt_typeddict std name fields vals hnd hl hopt ih

/-- at the top level: `fromdict(cls, json(asdict(x))) = x` for a main class that declares the v1 Meta -/
theorem roundtrip_root (std : Std) (laws : StdLaws std) (ci : ClassInfo) (ftys : List (S × Ty)) (v : PyVal)
    (hm : ci.cmeta = some mV1) (hc : Conf su std (.cls ci ftys) v) (d : DVal) (h : asdict std {} v = .ok d) :
    fromdictV1 std (.cls ci ftys) (toJ d) = .ok v := by
  cases hc with
  | inst _ _ vals tg hp hlen hall =>
    rw [asdict_inst, hm, root_cfg] at h
    obtain ⟨_, _, hload⟩ := cls_roundtrip std ci ftys vals tg hp hlen (fun p hp' => roundtrip std laws _ _ (hall p hp')) d h
    -- a main class runs under its own Meta: `effT su tg`, its effective Meta below the root's config, is `su.m`
    rw [← hp.effOk, hm, su.effSelf] at hload
    simpa only [fromdictV1, hm, root_cfg, eff_root] using hload

/-- `v1 = True; v1_key_case = 'CAMEL'` with the default (camelCase) dump transform -/
def camelSetup : Setup :=
  { m := { v1 := some true, v1KeyCase := some .camel }, kf := fun n => (toCamel n).getD n,
    effNested := by decide, effSelf := by decide, rootCfg := by decide,
    sd := rfl, sdi := rfl, si := rfl, tag := rfl, ts := rfl, noRaise := by decide }

/-- `v1 = True; key_transform_with_dump = 'NONE'`, no key case: keys are the field names as they are -/
def asIsSetup : Setup :=
  { m := { v1 := some true, keyTransformDump := some .none }, kf := fun n => n,
    effNested := by decide, effSelf := by decide, rootCfg := by decide,
    sd := rfl, sdi := rfl, si := rfl, tag := rfl, ts := rfl, noRaise := by decide }

/-- `v1 = True; v1_key_case = 'AUTO'; key_transform_with_dump = 'NONE'`: AUTO tries the field's own name first -/
def autoSetup : Setup :=
  { m := { v1 := some true, v1KeyCase := some .auto, keyTransformDump := some .none }, kf := fun n => n,
    effNested := by decide, effSelf := by decide, rootCfg := by decide,
    sd := rfl, sdi := rfl, si := rfl, tag := rfl, ts := rfl, noRaise := by decide }

/-- `v1 = True; v1_key_case = 'KEBAB'; key_transform_with_dump = 'LISP'` -/
def kebabSetup : Setup :=
  { m := { v1 := some true, v1KeyCase := some .kebab, keyTransformDump := some .lisp }, kf := toLisp,
    effNested := by decide, effSelf := by decide, rootCfg := by decide,
    sd := rfl, sdi := rfl, si := rfl, tag := rfl, ts := rfl, noRaise := by decide }

/-- `v1 = True; v1_key_case = 'SNAKE'; key_transform_with_dump = 'SNAKE'` -/
def snakeSetup : Setup :=
  { m := { v1 := some true, v1KeyCase := some .snake, keyTransformDump := some .snake }, kf := toSnake,
    effNested := by decide, effSelf := by decide, rootCfg := by decide,
    sd := rfl, sdi := rfl, si := rfl, tag := rfl, ts := rfl, noRaise := by decide }

/-- `v1 = True; v1_key_case = 'PASCAL'; key_transform_with_dump = 'PASCAL'` -/
def pascalSetup : Setup :=
  { m := { v1 := some true, v1KeyCase := some .pascal, keyTransformDump := some .pascal }, kf := fun n => (toPascal n).getD n,
    effNested := by decide, effSelf := by decide, rootCfg := by decide,
    sd := rfl, sdi := rfl, si := rfl, tag := rfl, ts := rfl, noRaise := by decide }

/-- the class-level conditions in concrete form: plain constructor fields without aliases -/
structure Unaliased (ci : ClassInfo) (ftys : List (S × Ty)) : Prop where
  names : ci.fields.map (·.name) = ftys.map (·.1)
  nodup : (ci.fields.map (·.name)).Nodup
  plain : ∀ f ∈ ci.fields, f.init = true ∧ f.isCatchAll = false ∧ f.dumpSkip = false ∧ f.skipIf = none ∧
            f.dumpAll = false ∧ f.loadKeys = []

theorem plain_of (su : Setup) (ci : ClassInfo) (ftys : List (S × Ty)) (hu : Unaliased ci ftys)
    (hm : ci.cmeta = none ∨ ci.cmeta = some su.m)
    (hd : ∀ f : FieldInfo, f ∈ ci.fields → f.dumpAll = false → dumpKey su.m f = .ok (su.kf f.name))
    (hl : ∀ f : FieldInfo, f ∈ ci.fields → f.loadKeys = [] → ∃ rest, v1Keys su.m f = su.kf f.name :: rest)
    (hk : (ci.fields.map (fun f => su.kf f.name)).Nodup) : PlainCls su ci ftys :=
  { effOk := (effT_none su).symm ▸ eff_of ci.cmeta hm,
    names := hu.names, nodup := hu.nodup,
    plain := fun f hf => ⟨(hu.plain f hf).1, (hu.plain f hf).2.1, (hu.plain f hf).2.2.1, (hu.plain f hf).2.2.2.1⟩,
    dkey := fun f hf => hd f hf (hu.plain f hf).2.2.2.2.1,
    lkey := fun f hf => hl f hf (hu.plain f hf).2.2.2.2.2,
    keysNodup := hk,
    member := (fun t ht => by cases ht),
    tagKeyFresh := (fun t ht => by cases ht) }

/-- the camelCase and PascalCase transforms never fail (`Option` only keeps a raising transform expressible) -/
theorem toCamel_some (s : S) : ∃ k, toCamel s = some k := by
  unfold toCamel; split <;> exact ⟨_, rfl⟩

theorem toPascal_some (s : S) : ∃ k, toPascal s = some k := by
  unfold toPascal; split <;> exact ⟨_, rfl⟩

theorem plain_camel (ci : ClassInfo) (ftys : List (S × Ty)) (hu : Unaliased ci ftys)
    (hm : ci.cmeta = none ∨ ci.cmeta = some camelSetup.m)
    (hk : (ci.fields.map (fun f => (toCamel f.name).getD f.name)).Nodup) : PlainCls camelSetup ci ftys :=
  plain_of camelSetup ci ftys hu hm
    (fun f _ hda => by
      obtain ⟨k, hk'⟩ := toCamel_some f.name
      simp [dumpKey, hda, camelSetup, LetterCaseOpt.toLC, LetterCase.apply, hk'])
    (fun f _ hlk => ⟨[], by simp [v1Keys, hlk, camelSetup]⟩) hk

theorem plain_asIs (ci : ClassInfo) (ftys : List (S × Ty)) (hu : Unaliased ci ftys)
    (hm : ci.cmeta = none ∨ ci.cmeta = some asIsSetup.m) : PlainCls asIsSetup ci ftys :=
  plain_of asIsSetup ci ftys hu hm
    (fun f _ hda => by simp [dumpKey, hda, asIsSetup, LetterCaseOpt.toLC, LetterCase.apply])
    (fun f _ hlk => ⟨[], by simp [v1Keys, hlk, asIsSetup]⟩) (by simpa [asIsSetup] using hu.nodup)

theorem plain_auto (ci : ClassInfo) (ftys : List (S × Ty)) (hu : Unaliased ci ftys)
    (hm : ci.cmeta = none ∨ ci.cmeta = some autoSetup.m) : PlainCls autoSetup ci ftys :=
  plain_of autoSetup ci ftys hu hm
    (fun f _ hda => by simp [dumpKey, hda, autoSetup, LetterCaseOpt.toLC, LetterCase.apply])
    (fun f _ hlk => ⟨(possibleJsonKeys f.name).getD [], by simp [v1Keys, hlk, autoSetup]⟩) (by simpa [autoSetup] using hu.nodup)

theorem plain_kebab (ci : ClassInfo) (ftys : List (S × Ty)) (hu : Unaliased ci ftys)
    (hm : ci.cmeta = none ∨ ci.cmeta = some kebabSetup.m) (hk : (ci.fields.map (fun f => toLisp f.name)).Nodup) :
    PlainCls kebabSetup ci ftys :=
  plain_of kebabSetup ci ftys hu hm
    (fun f _ hda => by simp [dumpKey, hda, kebabSetup, LetterCaseOpt.toLC, LetterCase.apply])
    (fun f _ hlk => ⟨[], by simp [v1Keys, hlk, kebabSetup]⟩) hk

theorem plain_snake (ci : ClassInfo) (ftys : List (S × Ty)) (hu : Unaliased ci ftys)
    (hm : ci.cmeta = none ∨ ci.cmeta = some snakeSetup.m) (hk : (ci.fields.map (fun f => toSnake f.name)).Nodup) :
    PlainCls snakeSetup ci ftys :=
  plain_of snakeSetup ci ftys hu hm
    (fun f _ hda => by simp [dumpKey, hda, snakeSetup, LetterCaseOpt.toLC, LetterCase.apply])
    (fun f _ hlk => ⟨[], by simp [v1Keys, hlk, snakeSetup]⟩) hk

theorem plain_pascal (ci : ClassInfo) (ftys : List (S × Ty)) (hu : Unaliased ci ftys)
    (hm : ci.cmeta = none ∨ ci.cmeta = some pascalSetup.m)
    (hk : (ci.fields.map (fun f => (toPascal f.name).getD f.name)).Nodup) : PlainCls pascalSetup ci ftys :=
  plain_of pascalSetup ci ftys hu hm
    (fun f _ hda => by
      obtain ⟨k, hk'⟩ := toPascal_some f.name
      simp [dumpKey, hda, pascalSetup, LetterCaseOpt.toLC, LetterCase.apply, hk'])
    (fun f _ hlk => ⟨[], by simp [v1Keys, hlk, pascalSetup]⟩) hk

/-- the model of `C02_roundtrip_example`: `Root(inner_obj: Inner, by_name: dict[str, Inner], when_at: Optional[datetime])`
with the v1 CAMEL Meta over `Inner(val_one: int, tags: list[str])` -/
def exInner : ClassInfo := { name := "Inner".toList, fields := [{ name := "val_one".toList }, { name := "tags".toList }] }
def exInnerTys : List (S × Ty) := [("val_one".toList, .int), ("tags".toList, .seq .list .str)]
def exRoot : ClassInfo :=
  { name := "Root".toList, cmeta := some camelSetup.m,
    fields := [{ name := "inner_obj".toList }, { name := "by_name".toList }, { name := "when_at".toList }] }
def exRootTys : List (S × Ty) :=
  [("inner_obj".toList, .cls exInner exInnerTys), ("by_name".toList, .map .dict .str (.cls exInner exInnerTys)),
   ("when_at".toList, .optional (.leaf .datetime))]

theorem exInner_un : Unaliased exInner exInnerTys :=
  ⟨rfl, by decide +kernel, forall_mem_pair ⟨rfl, rfl, rfl, rfl, rfl, rfl⟩ ⟨rfl, rfl, rfl, rfl, rfl, rfl⟩⟩

theorem exRoot_un : Unaliased exRoot exRootTys :=
  ⟨rfl, by decide +kernel, List.forall_mem_cons.2 ⟨⟨rfl, rfl, rfl, rfl, rfl, rfl⟩,
    forall_mem_pair ⟨rfl, rfl, rfl, rfl, rfl, rfl⟩ ⟨rfl, rfl, rfl, rfl, rfl, rfl⟩⟩⟩

theorem exInner_plain : PlainCls camelSetup exInner exInnerTys :=
  plain_camel _ _ exInner_un (Or.inl rfl) (by decide +kernel)

theorem exRoot_plain : PlainCls camelSetup exRoot exRootTys :=
  plain_camel _ _ exRoot_un (Or.inr rfl) (by decide +kernel)

theorem exInner_plain_auto : PlainCls autoSetup exInner exInnerTys := plain_auto _ _ exInner_un (Or.inl rfl)
theorem exInner_plain_asIs : PlainCls asIsSetup exInner exInnerTys := plain_asIs _ _ exInner_un (Or.inl rfl)

end DW.RTV1