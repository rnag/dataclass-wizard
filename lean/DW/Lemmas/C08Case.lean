/- C08 — round trips of the key-casing transforms on canonical snake_case names, represented by their word lists
(`joinWords ws`): through kebab-case for every canonical name, through camelCase / PascalCase for the sub-classes
`CamelSafe` / `PascalSafe` (over all canonical names the statement is false: `C08_camel_roundtrip_witness`,
`C08_pascal_roundtrip_witness` in DW/Props/C08.lean). -/
import DW.Model.Strings

namespace DW.C08Case
open DW.Str

/-- `[a-z]`.  Unfolds to `c.isLower` like the model's `Str.isLo`: `canon_cases` and `snake_capTail` read `startsLower` /
`secondLower` facts as `isLower` facts. -/
def isLoLetter (c : Char) : Bool := c.isLower

/-- A character allowed inside a word of a canonical snake_case name: `[a-z0-9]`.  Unfolds to the same term as the
model's `Str.isLoOrDig`, which the scanner lemmas (`snakeSub_cons_up_alt2`, `PrevOk`) speak of. -/
def isWordChar (c : Char) : Bool := c.isLower || c.isDigit

/-- `sep w₁ sep w₂ … sep wₙ` — every word preceded by the separator. -/
def sepTail (sep : Char) : List S → S
  | [] => []
  | w :: ws => sep :: (w ++ sepTail sep ws)

/-- The words joined by a single `sep`: `[w₀, w₁, w₂] ↦ w₀ ++ sep :: w₁ ++ sep :: w₂`, `[] ↦ []`. -/
def joinSep (sep : Char) : List S → S
  | [] => []
  | w :: ws => w ++ sepTail sep ws

/-- The snake_case name with the given words: joined by a single `'_'`. -/
def joinWords (ws : List S) : S := joinSep '_' ws

/-- A non-empty word made of `[a-z0-9]` only. -/
def wordOk (w : S) : Bool := !w.isEmpty && w.all isWordChar

def startsLower : S → Bool
  | c :: _ => isLoLetter c
  | [] => false

def canonWords : List S → Bool
  | [] => false
  | w :: ws => startsLower w && (w :: ws).all wordOk

/-- Canonical snake_case, as a word list: at least one word, every word non-empty and made of
lower-case letters / digits, the first word starts with a lower-case letter.  (So `joinWords ws`
matches `[a-z][a-z0-9]*(_[a-z0-9]+)*`.) -/
def CanonWords (ws : List S) : Prop := canonWords ws = true

instance (ws : List S) : Decidable (CanonWords ws) := by unfold CanonWords; infer_instance

theorem isLower_iff (c : Char) : c.isLower = true ↔ 97 ≤ c.val.toNat ∧ c.val.toNat ≤ 122 := by
  simp [Char.isLower, UInt32.le_iff_toNat_le]

theorem isUpper_iff (c : Char) : c.isUpper = true ↔ 65 ≤ c.val.toNat ∧ c.val.toNat ≤ 90 := by
  simp [Char.isUpper, UInt32.le_iff_toNat_le]

theorem isDigit_iff (c : Char) : c.isDigit = true ↔ 48 ≤ c.val.toNat ∧ c.val.toNat ≤ 57 := by
  simp [Char.isDigit, UInt32.le_iff_toNat_le]

theorem toUpper_val_of_lower (c : Char) (h : c.isLower = true) :
    c.toUpper.val.toNat = c.val.toNat - 32 := by
  have h' := (isLower_iff c).1 h
  have hc : 'a'.val ≤ c.val ∧ c.val ≤ 'z'.val := by simpa [UInt32.le_iff_toNat_le] using h'
  unfold Char.toUpper
  rw [dif_pos hc]
  show (c.val + ('A'.val - 'a'.val)).toNat = _
  -- `'A' - 'a' = -32` wraps to `2^32 - 32`
  rw [UInt32.toNat_add, show ('A'.val - 'a'.val).toNat = 2 ^ 32 - 32 from rfl,
    show c.val.toNat + (2 ^ 32 - 32) = c.val.toNat - 32 + 2 ^ 32 by omega, Nat.add_mod_right,
    Nat.mod_eq_of_lt (by omega)]

theorem toLower_val_of_upper (c : Char) (h : c.isUpper = true) :
    c.toLower.val.toNat = c.val.toNat + 32 := by
  have h' := (isUpper_iff c).1 h
  have hc : c.val ≥ 'A'.val ∧ c.val ≤ 'Z'.val := by simpa [UInt32.le_iff_toNat_le] using h'
  unfold Char.toLower
  rw [dif_pos hc]
  show (c.val + ('a'.val - 'A'.val)).toNat = _
  rw [UInt32.toNat_add, show ('a'.val - 'A'.val).toNat = 32 from rfl, Nat.mod_eq_of_lt (by omega)]

theorem toLower_of_not_upper (c : Char) (h : c.isUpper = false) : c.toLower = c :=
  dif_neg (of_decide_eq_false h)

theorem toUpper_of_not_lower (c : Char) (h : c.isLower = false) : c.toUpper = c :=
  dif_neg (by simpa [Char.isLower] using h)

theorem isUpper_toUpper (c : Char) (h : c.isLower = true) : c.toUpper.isUpper = true := by
  rw [isUpper_iff, toUpper_val_of_lower c h]
  have := (isLower_iff c).1 h
  omega

theorem toLower_toUpper (c : Char) (h : c.isLower = true) : c.toUpper.toLower = c := by
  apply Char.ext
  apply UInt32.toNat_inj.1
  rw [toLower_val_of_upper _ (isUpper_toUpper c h), toUpper_val_of_lower c h]
  have := (isLower_iff c).1 h
  omega

theorem wordChar_not_upper (c : Char) (h : isWordChar c = true) : c.isUpper = false := by
  cases hu : c.isUpper with
  | false => rfl
  | true =>
    have := (isUpper_iff c).1 hu
    rcases Bool.or_eq_true _ _ ▸ h with h | h
    · have := (isLower_iff c).1 h; omega
    · have := (isDigit_iff c).1 h; omega

/-- every character of the word is in `[a-z0-9]`: the Prop form of the second half of `wordOk` -/
def Plain (w : S) : Prop := ∀ c ∈ w, isWordChar c = true

/-- every word is non-empty and plain: the Prop form of `ws.all wordOk` (`all_wordOk_iff`) -/
def Words (ws : List S) : Prop := ∀ w ∈ ws, w ≠ [] ∧ Plain w

theorem plain_cons {c : Char} {r : S} (h : Plain (c :: r)) : isWordChar c = true ∧ Plain r :=
  List.forall_mem_cons.1 h

theorem words_cons_cons {c : Char} {r : S} {ws : List S} (h : Words ((c :: r) :: ws)) :
    isWordChar c = true ∧ Plain r ∧ Words ws :=
  let ⟨⟨_, hp⟩, hws⟩ := List.forall_mem_cons.1 h
  ⟨(plain_cons hp).1, (plain_cons hp).2, hws⟩

theorem words_cons {w : S} {ws : List S} (h : Words (w :: ws)) :
    ∃ c r, w = c :: r ∧ isWordChar c = true ∧ Plain r ∧ Words ws := by
  cases w with
  | nil => exact absurd rfl (h [] List.mem_cons_self).1
  | cons c r => exact ⟨c, r, rfl, words_cons_cons h⟩

theorem wordOk_iff (w : S) : wordOk w = true ↔ w ≠ [] ∧ Plain w := by
  simp [wordOk, Plain]

theorem all_wordOk_iff (ws : List S) : ws.all wordOk = true ↔ Words ws := by
  simp only [List.all_eq_true, wordOk_iff, Words]

/-- `canonWords_iff` from left to right, in the shape the proofs take apart -/
theorem canon_cases {ws : List S} (h : CanonWords ws) :
    ∃ c r rest, ws = (c :: r) :: rest ∧ c.isLower = true ∧ Words ws := by
  unfold CanonWords at h
  match ws, h with
  | (c :: r) :: rest, h =>
    unfold canonWords at h
    rw [Bool.and_eq_true] at h
    exact ⟨c, r, rest, rfl, h.1, (all_wordOk_iff _).1 h.2⟩
  | [] :: rest, h => simp [canonWords, startsLower] at h

theorem words_of_canon {ws : List S} (h : CanonWords ws) : Words ws :=
  let ⟨_, _, _, _, _, hW⟩ := canon_cases h
  hW

/-- a character that is neither a word character nor an upper-case letter (`'_'`, `'-'`, `' '`, `'\n'`) -/
def Special (d : Char) : Prop := isWordChar d = false ∧ d.isUpper = false

theorem special_underscore : Special '_' := ⟨rfl, rfl⟩
theorem special_dash : Special '-' := ⟨rfl, rfl⟩
theorem special_space : Special ' ' := ⟨rfl, rfl⟩
theorem special_nl : Special '\n' := ⟨rfl, rfl⟩

theorem wordChar_ne_special {c d : Char} (h : isWordChar c = true) (hd : Special d) : c ≠ d :=
  fun e => Bool.noConfusion ((e ▸ h).symm.trans hd.1)

theorem upper_ne_special {c d : Char} (h : c.isUpper = true) (hd : Special d) : c ≠ d :=
  fun e => Bool.noConfusion ((e ▸ h).symm.trans hd.2)

theorem plain_ne_special {w : S} (hw : Plain w) {d : Char} (hd : Special d) : ∀ c ∈ w, c ≠ d :=
  fun c hc => wordChar_ne_special (hw c hc) hd

theorem words_ne_special {ws : List S} (hW : Words ws) {d : Char} (hd : Special d) :
    ∀ w ∈ ws, ∀ c ∈ w, c ≠ d :=
  fun w hw => plain_ne_special (hW w hw).2 hd

theorem replaceChar_id (a b : Char) (s : S) (h : ∀ c ∈ s, c ≠ a) : replaceChar a b s = s :=
  (List.map_congr_left fun c hc => if_neg (h c hc)).trans (List.map_id' s)

theorem replaceChar_append (a b : Char) (s t : S) :
    replaceChar a b (s ++ t) = replaceChar a b s ++ replaceChar a b t := by
  simp [replaceChar]

theorem replaceChar_cons (a b c : Char) (s : S) :
    replaceChar a b (c :: s) = (if c = a then b else c) :: replaceChar a b s := by
  simp [replaceChar]

theorem replaceChar_sepTail (a b : Char) (ws : List S) (h : ∀ w ∈ ws, ∀ c ∈ w, c ≠ a) :
    replaceChar a b (sepTail a ws) = sepTail b ws := by
  induction ws with
  | nil => rfl
  | cons w ws ih =>
    obtain ⟨hw, hws⟩ := List.forall_mem_cons.1 h
    simp only [sepTail]
    rw [replaceChar_cons, if_pos rfl, replaceChar_append, replaceChar_id a b w hw, ih hws]

theorem replaceChar_joinSep (a b : Char) (ws : List S) (h : ∀ w ∈ ws, ∀ c ∈ w, c ≠ a) :
    replaceChar a b (joinSep a ws) = joinSep b ws := by
  cases ws with
  | nil => rfl
  | cons w ws =>
    obtain ⟨hw, hws⟩ := List.forall_mem_cons.1 h
    simp only [joinSep]
    rw [replaceChar_append, replaceChar_id a b w hw, replaceChar_sepTail a b ws hws]

theorem forall_mem_sepTail {P : Char → Prop} {sep : Char} {ws : List S} (hsep : P sep)
    (hw : ∀ w ∈ ws, ∀ c ∈ w, P c) : ∀ c ∈ sepTail sep ws, P c := by
  induction ws with
  | nil => intro c hc; cases hc
  | cons w ws ih =>
    obtain ⟨h1, h2⟩ := List.forall_mem_cons.1 hw
    exact List.forall_mem_cons.2 ⟨hsep, List.forall_mem_append.2 ⟨h1, ih h2⟩⟩

theorem forall_mem_joinSep {P : Char → Prop} {sep : Char} {ws : List S} (hsep : P sep)
    (hw : ∀ w ∈ ws, ∀ c ∈ w, P c) : ∀ c ∈ joinSep sep ws, P c := by
  cases ws with
  | nil => intro c hc; cases hc
  | cons w ws =>
    obtain ⟨h1, h2⟩ := List.forall_mem_cons.1 hw
    exact List.forall_mem_append.2 ⟨h1, forall_mem_sepTail hsep h2⟩

theorem snakeSub_cons_noUp (sep : Char) (prev : Option Char) (c : Char) (r : S)
    (h : c.isUpper = false) : snakeSub sep prev (c :: r) = c :: snakeSub sep (some c) r := by
  simp only [snakeSub, isUp, h, Bool.false_and, Bool.false_eq_true, if_false]

/-- no upper-case letter: the regex of `to_snake_case` never matches -/
theorem snakeSub_noUp (sep : Char) (s : S) (h : ∀ c ∈ s, c.isUpper = false) :
    ∀ prev, snakeSub sep prev s = s := by
  induction s with
  | nil => intro prev; rfl
  | cons c r ih =>
    intro prev
    obtain ⟨hc, hr⟩ := List.forall_mem_cons.1 h
    rw [snakeSub_cons_noUp sep prev c r hc, ih hr]

theorem lowerS_noUp (s : S) (h : ∀ c ∈ s, c.isUpper = false) : lowerS s = s :=
  (List.map_congr_left fun c hc => toLower_of_not_upper c (h c hc)).trans (List.map_id' s)

/-- both branches of `toSepCase` agree: when the `islower()` shortcut is taken there is no
upper-case letter, so the regex substitution and `.lower()` are the identity anyway. -/
theorem toSepCase_eq (sep other : Char) (s : S) :
    toSepCase sep other s
      = collapse sep (lowerS (snakeSub sep none (replaceChar ' ' sep (replaceChar other sep s)))) := by
  unfold toSepCase
  simp only
  split
  next h =>
    have hno : ∀ c ∈ replaceChar ' ' sep (replaceChar other sep s), c.isUpper = false := by
      simp [pyIsLower, isUp] at h
      exact h.2
    rw [snakeSub_noUp sep _ hno none, lowerS_noUp _ hno]
  next => rfl

theorem collapse_cons_ne (ch c : Char) (rest : S) (h : c ≠ ch) :
    collapse ch (c :: rest) = c :: collapse ch rest := by
  cases rest with
  | nil => simp [collapse]
  | cons d r => rw [collapse, if_neg (fun hh => h hh.1)]

theorem collapse_cons_cons_ne (ch c d : Char) (rest : S) (h : d ≠ ch) :
    collapse ch (c :: d :: rest) = c :: collapse ch (d :: rest) := by
  rw [collapse, if_neg (fun hh => h hh.2)]

theorem collapse_append_ne (ch : Char) (w X : S) (h : ∀ c ∈ w, c ≠ ch) :
    collapse ch (w ++ X) = w ++ collapse ch X := by
  induction w with
  | nil => rfl
  | cons c r ih =>
    obtain ⟨hc, hr⟩ := List.forall_mem_cons.1 h
    rw [List.cons_append, collapse_cons_ne ch c _ hc, ih hr, List.cons_append]

theorem collapse_sepTail {ch : Char} (hch : Special ch) (ws : List S) (hW : Words ws) :
    collapse ch (sepTail ch ws) = sepTail ch ws := by
  induction ws with
  | nil => rfl
  | cons w ws ih =>
    obtain ⟨c, r, rfl, hc, hr, hws⟩ := words_cons hW
    have hcc : c ≠ ch := wordChar_ne_special hc hch
    simp only [sepTail, List.cons_append]
    rw [collapse_cons_cons_ne ch ch c _ hcc, collapse_cons_ne ch c _ hcc,
      collapse_append_ne ch r _ (plain_ne_special hr hch), ih hws]

theorem collapse_joinSep {ch : Char} (hch : Special ch) (ws : List S) (hW : Words ws) :
    collapse ch (joinSep ch ws) = joinSep ch ws := by
  cases ws with
  | nil => rfl
  | cons w ws =>
    obtain ⟨⟨_, hp⟩, hws⟩ := List.forall_mem_cons.1 hW
    simp only [joinSep]
    rw [collapse_append_ne ch w _ (plain_ne_special hp hch), collapse_sepTail hch ws hws]

theorem joinSep_noUp {sep : Char} {ws : List S} (hsep : Special sep) (hW : Words ws) :
    ∀ c ∈ joinSep sep ws, c.isUpper = false :=
  forall_mem_joinSep hsep.2 (fun w hw c hc => wordChar_not_upper c ((hW w hw).2 c hc))

/-- `j` is the character the words of the input are joined by: `other`, which the transform replaces by `sep`, or `sep`
itself -/
theorem toSepCase_join (sep other j : Char) (ws : List S) (hW : Words ws)
    (hsep : Special sep) (hother : Special other) (hj : j = other ∨ (j = sep ∧ sep ≠ other))
    (hsp : sep ≠ ' ') :
    toSepCase sep other (joinSep j ws) = joinSep sep ws := by
  rw [toSepCase_eq]
  have h1 : replaceChar other sep (joinSep j ws) = joinSep sep ws := by
    rcases hj with rfl | ⟨rfl, hne⟩
    · exact replaceChar_joinSep j sep ws (words_ne_special hW hother)
    · exact replaceChar_id _ _ _ (forall_mem_joinSep hne (words_ne_special hW hother))
  have h2 : replaceChar ' ' sep (joinSep sep ws) = joinSep sep ws :=
    replaceChar_id _ _ _ (forall_mem_joinSep hsp (words_ne_special hW special_space))
  have hno := joinSep_noUp hsep hW
  rw [h1, h2, snakeSub_noUp _ _ hno, lowerS_noUp _ hno, collapse_joinSep hsep ws hW]

theorem lisp_of_canon {ws : List S} (h : CanonWords ws) :
    toLisp (joinWords ws) = joinSep '-' ws :=
  toSepCase_join '-' '_' '_' ws (words_of_canon h) special_dash special_underscore (Or.inl rfl) (by decide)

theorem snake_fixed {ws : List S} (h : CanonWords ws) : toSnake (joinWords ws) = joinWords ws :=
  toSepCase_join '_' '-' '_' ws (words_of_canon h) special_underscore special_dash
    (Or.inr ⟨rfl, by decide⟩) (by decide)

theorem lisp_roundtrip {ws : List S} (h : CanonWords ws) :
    toSnake (toLisp (joinWords ws)) = joinWords ws := by
  rw [lisp_of_canon h]
  exact toSepCase_join '_' '-' '-' ws (words_of_canon h) special_underscore special_dash (Or.inl rfl) (by decide)

/-- The capitalised words concatenated: `[w₁, w₂] ↦ W₁ ++ W₂` where `W` is `w` with its first
character upper-cased.  `to_pascal_case (joinWords ws) = capTail ws` and
`to_camel_case (joinWords (w₀ :: ws)) = w₀ ++ capTail ws` (see `toPascal_join`, `toCamel_join`). -/
def capTail : List S → S
  | [] => []
  | [] :: ws => capTail ws
  | (c :: r) :: ws => c.toUpper :: (r ++ capTail ws)

/-- the second character of the first word exists and is a lower-case letter -/
def secondLower : List S → Bool
  | (_ :: d :: _) :: _ => isLoLetter d
  | _ => false

/-- Every *capitalised* word that is followed by another word either has length ≥ 2 (so the
character before the next capital is `[a-z0-9]`, second alternative of the regex) or is a single
letter and the next word's second character is a lower-case letter (first alternative
`(?<!_)[A-Z][a-z]+`).  This is exactly the condition under which `to_snake_case` re-inserts every
underscore: `a_b_c ↦ aBC ↦ a_bc` violates it, `a_b_cd ↦ aBCd ↦ a_b_cd` satisfies it. -/
def chainOk : List S → Bool
  | [] => true
  | w :: ws => (decide (2 ≤ w.length) || ws.isEmpty || secondLower ws) && chainOk ws

/-- Canonical names on which snake → camel → snake is the identity: every word after the first
starts with a lower-case letter (a leading digit has no upper case, `a_1b ↦ a1b`), and the words
after the first satisfy `chainOk`.  Implied by "every word after the first is `[a-z][a-z0-9]+`"
(`camelSafe_of_len2`). -/
def CamelSafe (ws : List S) : Prop :=
  CanonWords ws ∧ ws.tail.all startsLower = true ∧ chainOk ws.tail = true

/-- Same for pascal: here the first word is capitalised as well, so it takes part in `chainOk`
(`a_b1 ↦ AB1 ↦ ab1` fails, `a_bc ↦ ABc ↦ a_bc` and `ab_c1 ↦ AbC1 ↦ ab_c1` are fine). -/
def PascalSafe (ws : List S) : Prop :=
  CanonWords ws ∧ ws.tail.all startsLower = true ∧ chainOk ws = true

instance (ws : List S) : Decidable (CamelSafe ws) := by unfold CamelSafe; infer_instance
instance (ws : List S) : Decidable (PascalSafe ws) := by unfold PascalSafe; infer_instance

theorem camelTail_cons_ne (c : Char) (X : S) (h : c ≠ '_') :
    camelTail (c :: X) = c :: camelTail X := by
  cases X with
  | nil => simp [camelTail]
  | cons d r => rw [camelTail, if_neg h]

theorem camelTail_append (w X : S) (h : ∀ c ∈ w, c ≠ '_') :
    camelTail (w ++ X) = w ++ camelTail X := by
  induction w with
  | nil => rfl
  | cons c r ih =>
    obtain ⟨hc, hr⟩ := List.forall_mem_cons.1 h
    rw [List.cons_append, camelTail_cons_ne c _ hc, ih hr, List.cons_append]

theorem camelTail_sepTail (ws : List S) (hW : Words ws) :
    camelTail (sepTail '_' ws) = capTail ws := by
  induction ws with
  | nil => rfl
  | cons w ws ih =>
    obtain ⟨c, r, rfl, hc, hr, hws⟩ := words_cons hW
    simp only [sepTail, capTail, List.cons_append]
    -- `camelTail` tests `d = '\n'` because the regex `.` does not match a newline; a word character is none
    rw [camelTail, if_pos rfl, if_neg (wordChar_ne_special hc special_nl),
      camelTail_append r _ (plain_ne_special hr special_underscore), ih hws]

theorem normSep_join (ws : List S) (hW : Words ws) : normSep (joinWords ws) = joinWords ws := by
  unfold normSep joinWords
  rw [replaceChar_id '-' '_' _ (forall_mem_joinSep (by decide) (words_ne_special hW special_dash)),
    replaceChar_id ' ' '_' _ (forall_mem_joinSep (by decide) (words_ne_special hW special_space)),
    collapse_joinSep special_underscore ws hW]

theorem toCamel_join (c : Char) (r : S) (rest : List S)
    (hW : Words ((c :: r) :: rest)) :
    toCamel (joinWords ((c :: r) :: rest)) = some (c :: (r ++ capTail rest)) := by
  obtain ⟨hcw, hr, hrest⟩ := words_cons_cons hW
  unfold toCamel
  rw [normSep_join _ hW]
  simp only [joinWords, joinSep, List.cons_append]
  rw [camelTail_append r _ (plain_ne_special hr special_underscore), camelTail_sepTail rest hrest,
    toLower_of_not_upper c (wordChar_not_upper c hcw)]

theorem toPascal_join (c : Char) (r : S) (rest : List S)
    (hW : Words ((c :: r) :: rest)) :
    toPascal (joinWords ((c :: r) :: rest)) = some (capTail ((c :: r) :: rest)) := by
  obtain ⟨_, hr, hrest⟩ := words_cons_cons hW
  unfold toPascal
  rw [normSep_join _ hW]
  simp only [joinWords, joinSep, List.cons_append, capTail]
  rw [camelTail_append r _ (plain_ne_special hr special_underscore), camelTail_sepTail rest hrest]

theorem lowerS_cons (c : Char) (s : S) : lowerS (c :: s) = c.toLower :: lowerS s := rfl

theorem snakeSub_none_cons (sep : Char) (c : Char) (r : S) :
    snakeSub sep none (c :: r) = c :: snakeSub sep (some c) r := by
  simp [snakeSub]

/-- second alternative `(?<=[a-z0-9])[A-Z]` -/
theorem snakeSub_cons_up_alt2 (sep p c : Char) (r : S) (hc : c.isUpper = true)
    (hp : isLoOrDig p = true) :
    snakeSub sep (some p) (c :: r) = sep :: c :: snakeSub sep (some c) r := by
  simp [snakeSub, isUp, hc, hp]

/-- first alternative `(?!^)(?<!SEP)[A-Z][a-z]+` -/
theorem snakeSub_cons_up_alt1 (sep p c d : Char) (r : S) (hc : c.isUpper = true)
    (hp : p ≠ sep) (hd : d.isLower = true) :
    snakeSub sep (some p) (c :: d :: r) = sep :: c :: snakeSub sep (some c) (d :: r) := by
  simp [snakeSub, isUp, isLo, hc, hp, hd]

/-- A plain word in front of `X` is reproduced and hands `X` a `[a-z0-9]` predecessor; `hX` is the scan of `X` from there. -/
theorem snake_plain_append (X Y : S)
    (hX : ∀ p, isLoOrDig p = true → lowerS (snakeSub '_' (some p) X) = Y) :
    ∀ (c : Char) (r : S), Plain (c :: r) → ∀ prev, lowerS (snakeSub '_' prev (c :: (r ++ X))) = c :: (r ++ Y)
  | c, r, hpl, prev => by
    obtain ⟨hc, hr⟩ := plain_cons hpl
    have hnu := wordChar_not_upper c hc
    rw [snakeSub_cons_noUp '_' _ c _ hnu, lowerS_cons, toLower_of_not_upper c hnu]
    cases r with
    | nil => exact congrArg _ (hX c hc)    -- `isWordChar c` is `isLoOrDig c` by unfolding
    | cons d r => exact congrArg _ (snake_plain_append X Y hX d r hr (some c))

/-- the state in which the scanner re-inserts the underscore before the next capital -/
def PrevOk (p : Char) (ws : List S) : Prop :=
  isLoOrDig p = true ∨ ws = [] ∨ (p ≠ '_' ∧ secondLower ws = true)

/-- The rest `r` of a word after its capital `C`.  `HM` is the scan of the words that follow, from any predecessor with
`PrevOk`; `hlen`, the word's conjunct of `chainOk`, makes the last character of `C :: r` such a predecessor. -/
theorem snake_after_cap (C : Char) (r : S) (ws : List S) (hC : C.isUpper = true) (hr : Plain r)
    (hlen : (decide (2 ≤ r.length + 1) || ws.isEmpty || secondLower ws) = true)
    (HM : ∀ p, PrevOk p ws → lowerS (snakeSub '_' (some p) (capTail ws)) = sepTail '_' ws) :
    lowerS (snakeSub '_' (some C) (r ++ capTail ws)) = r ++ sepTail '_' ws := by
  cases r with
  | nil =>
    refine HM C ?_
    simp only [List.length_nil, Bool.or_eq_true, decide_eq_true_eq, List.isEmpty_iff] at hlen
    rcases hlen with (h | h) | h
    · omega
    · exact .inr (.inl h)
    · exact .inr (.inr ⟨upper_ne_special hC special_underscore, h⟩)
  | cons d r2 =>
    exact snake_plain_append (capTail ws) (sepTail '_' ws) (fun p hp => HM p (Or.inl hp)) d r2 hr (some C)

/-- By induction on `ws`: the induction hypothesis is the `HM` that `snake_after_cap` asks for. -/
theorem snake_capTail (ws : List S) (hW : Words ws) (hS : ws.all startsLower = true) (hC : chainOk ws = true)
    (p : Char) (hp : PrevOk p ws) : lowerS (snakeSub '_' (some p) (capTail ws)) = sepTail '_' ws := by
  induction ws generalizing p with
  | nil => rfl
  | cons w ws ih =>
    obtain ⟨c, r, rfl, _, hr, hWs⟩ := words_cons hW
    rw [List.all_cons, Bool.and_eq_true] at hS
    have hcl : c.isLower = true := hS.1
    have hup := isUpper_toUpper c hcl
    rw [chainOk, Bool.and_eq_true] at hC
    have hins : snakeSub '_' (some p) (capTail ((c :: r) :: ws))
        = '_' :: c.toUpper :: snakeSub '_' (some c.toUpper) (r ++ capTail ws) := by
      simp only [capTail]
      rcases hp with hp | hp | ⟨hp, h2⟩
      · exact snakeSub_cons_up_alt2 '_' p _ _ hup hp
      · cases hp
      · cases r with
        | nil => simp [secondLower] at h2
        | cons d r2 =>
          rw [List.cons_append]
          exact snakeSub_cons_up_alt1 '_' p _ d _ hup hp h2
    rw [hins, lowerS_cons, lowerS_cons, toLower_toUpper c hcl,
      snake_after_cap c.toUpper r ws hup hr hC.1 (ih hWs hS.2 hC.2)]
    rfl

theorem mem_capTail {ws : List S} (hW : Words ws) :
    ∀ c ∈ capTail ws, isWordChar c = true ∨ c.isUpper = true := by
  induction ws with
  | nil => intro c h; cases h
  | cons w ws ih =>
    obtain ⟨c, r, rfl, hc, hr, hWs⟩ := words_cons hW
    refine List.forall_mem_cons.2 ⟨?_, List.forall_mem_append.2 ⟨fun d hd => .inl (hr d hd), ih hWs⟩⟩
    cases hl : c.isLower with
    | true => exact .inr (isUpper_toUpper c hl)
    | false => rw [toUpper_of_not_lower c hl]; exact .inl hc

theorem camelChar_ne_special {c d : Char} (h : isWordChar c = true ∨ c.isUpper = true)
    (hd : Special d) : c ≠ d :=
  h.elim (wordChar_ne_special · hd) (upper_ne_special · hd)

/-- Reduces `toSnake` to the scan (`hscan`): `hmem` makes the two replacements do nothing, `hW` the final `collapse`. -/
theorem toSnake_of_scan (cs : S) (ws : List S) (hW : Words ws)
    (hmem : ∀ c ∈ cs, isWordChar c = true ∨ c.isUpper = true)
    (hscan : lowerS (snakeSub '_' none cs) = joinSep '_' ws) : toSnake cs = joinWords ws := by
  unfold toSnake joinWords
  rw [toSepCase_eq,
    replaceChar_id '-' '_' cs (fun c hc => camelChar_ne_special (hmem c hc) special_dash),
    replaceChar_id ' ' '_' cs (fun c hc => camelChar_ne_special (hmem c hc) special_space),
    hscan, collapse_joinSep special_underscore ws hW]

theorem camel_roundtrip {ws : List S} (h : CamelSafe ws) :
    ∃ c, toCamel (joinWords ws) = some c ∧ toSnake c = joinWords ws := by
  obtain ⟨hcan, hS, hC⟩ := h
  obtain ⟨c, r, rest, rfl, hcl, hW⟩ := canon_cases hcan
  obtain ⟨hcw, hr, hWs⟩ := words_cons_cons hW
  simp only [List.tail_cons] at hS hC
  refine ⟨_, toCamel_join c r rest hW, ?_⟩
  apply toSnake_of_scan _ _ hW
  · exact List.forall_mem_cons.2 ⟨.inl hcw, List.forall_mem_append.2 ⟨fun d hd => .inl (hr d hd), mem_capTail hWs⟩⟩
  · exact snake_plain_append (capTail rest) (sepTail '_' rest)
      (fun p hp => snake_capTail rest hWs hS hC p (Or.inl hp)) c r (List.forall_mem_cons.2 ⟨hcw, hr⟩) none

theorem pascal_roundtrip {ws : List S} (h : PascalSafe ws) :
    ∃ c, toPascal (joinWords ws) = some c ∧ toSnake c = joinWords ws := by
  obtain ⟨hcan, hS, hC⟩ := h
  obtain ⟨c, r, rest, rfl, hcl, hW⟩ := canon_cases hcan
  obtain ⟨_, hr, hWs⟩ := words_cons_cons hW
  simp only [List.tail_cons] at hS
  rw [chainOk, Bool.and_eq_true] at hC
  have hup := isUpper_toUpper c hcl
  refine ⟨_, toPascal_join c r rest hW, ?_⟩
  apply toSnake_of_scan _ _ hW
  · exact mem_capTail hW
  · simp only [capTail]
    rw [snakeSub_none_cons, lowerS_cons, toLower_toUpper c hcl,
      snake_after_cap c.toUpper r rest hup hr hC.1 (snake_capTail rest hWs hS hC.2)]
    rfl

theorem canonWords_iff (ws : List S) :
    CanonWords ws ↔
      (∀ w ∈ ws, w ≠ [] ∧ ∀ c ∈ w, isWordChar c = true)
      ∧ ∃ c r rest, ws = (c :: r) :: rest ∧ isLoLetter c = true := by
  constructor
  · intro h
    obtain ⟨c, r, rest, hws, hc, hW⟩ := canon_cases h
    exact ⟨hW, c, r, rest, hws, hc⟩
  · rintro ⟨hW, c, r, rest, rfl, hc⟩
    exact Bool.and_eq_true_iff.2 ⟨hc, (all_wordOk_iff _).2 hW⟩

theorem chainOk_of_len2 (ws : List S) (h : ∀ w ∈ ws, 2 ≤ w.length) : chainOk ws = true := by
  induction ws with
  | nil => rfl
  | cons w ws ih =>
    obtain ⟨hw, hws⟩ := List.forall_mem_cons.1 h
    rw [chainOk, ih hws]
    simp [hw]

theorem chainOk_tail (ws : List S) (h : chainOk ws = true) : chainOk ws.tail = true := by
  cases ws with
  | nil => rfl
  | cons w ws =>
    rw [chainOk, Bool.and_eq_true] at h
    exact h.2

theorem camelSafe_of_pascalSafe {ws : List S} (h : PascalSafe ws) : CamelSafe ws :=
  ⟨h.1, h.2.1, chainOk_tail ws h.2.2⟩

theorem camelSafe_of_len2 {ws : List S} (h : CanonWords ws)
    (ht : ∀ w ∈ ws.tail, startsLower w = true ∧ 2 ≤ w.length) : CamelSafe ws :=
  ⟨h, List.all_eq_true.2 (fun w hw => (ht w hw).1),
    chainOk_of_len2 _ (fun w hw => (ht w hw).2)⟩

/-- the length of the first word matters only when there is a second word whose second character is not a
lower-case letter, see `chainOk` -/
theorem pascalSafe_of_len2 {ws : List S} (h : CanonWords ws)
    (ht : ∀ w ∈ ws.tail, startsLower w = true ∧ 2 ≤ w.length)
    (h0 : ∀ w ∈ ws.head?, 2 ≤ w.length) : PascalSafe ws := by
  refine ⟨h, List.all_eq_true.2 (fun w hw => (ht w hw).1), chainOk_of_len2 _ ?_⟩
  cases ws with
  | nil => exact fun _ hw => nomatch hw
  | cons w0 rest => exact List.forall_mem_cons.2 ⟨h0 w0 rfl, fun w hw => (ht w hw).2⟩

/-- The name class in the text of property C08, words `[a-z]{2,}[0-9]*`, relaxed to "non-empty list of words in
`[a-z][a-z0-9]+`": such names are canonical, camel- and pascal-safe. -/
theorem safe_of_property_class {ws : List S} (hne : ws ≠ [])
    (h : ∀ w ∈ ws, wordOk w = true ∧ startsLower w = true ∧ 2 ≤ w.length) :
    CanonWords ws ∧ CamelSafe ws ∧ PascalSafe ws := by
  have hcan : CanonWords ws := by
    cases ws with
    | nil => exact absurd rfl hne
    | cons w rest =>
      exact Bool.and_eq_true_iff.2 ⟨(h w (by simp)).2.1, List.all_eq_true.2 (fun v hv => (h v hv).1)⟩
  have hp : PascalSafe ws :=
    pascalSafe_of_len2 hcan (fun w hw => (h w (List.mem_of_mem_tail hw)).2)
      (fun w hw => (h w (List.mem_of_mem_head? hw)).2.2)
  exact ⟨hcan, camelSafe_of_pascalSafe hp, hp⟩

theorem roundtrips_property_class {ws : List S} (hne : ws ≠ [])
    (h : ∀ w ∈ ws, wordOk w = true ∧ startsLower w = true ∧ 2 ≤ w.length) :
    toSnake (toLisp (joinWords ws)) = joinWords ws
    ∧ (∃ c, toCamel (joinWords ws) = some c ∧ toSnake c = joinWords ws)
    ∧ (∃ c, toPascal (joinWords ws) = some c ∧ toSnake c = joinWords ws) := by
  obtain ⟨hcan, hc, hp⟩ := safe_of_property_class hne h
  exact ⟨lisp_roundtrip hcan, camel_roundtrip hc, pascal_roundtrip hp⟩

/-! ### The safe classes are not just sufficient (exhaustive check on a small universe)

`camel_roundtrip` / `pascal_roundtrip` above are the general theorems.  The following is only a
sanity check of the *converse* (that `CamelSafe` / `PascalSafe` cannot be weakened): over every
canonical list of at most three words drawn from `a, 1, ab, a1, 1a` the round trip holds **iff** the
name is in the safe class. -/

def camelRT (ws : List S) : Bool := (toCamel (joinWords ws)).map toSnake == some (joinWords ws)
def pascalRT (ws : List S) : Bool := (toPascal (joinWords ws)).map toSnake == some (joinWords ws)

def smallWords : List S := [['a'], ['1'], ['a', 'b'], ['a', '1'], ['1', 'a']]
def smallLists : List (List S) :=
  smallWords.map (fun a => [a])
  ++ smallWords.flatMap (fun a => smallWords.map (fun b => [a, b]))
  ++ smallWords.flatMap (fun a => smallWords.flatMap (fun b => smallWords.map (fun c => [a, b, c])))

theorem safe_classes_exact_small :
    smallLists.all (fun ws => !canonWords ws ||
      (camelRT ws == decide (CamelSafe ws) && pascalRT ws == decide (PascalSafe ws))) = true := by
  decide +kernel

end DW.C08Case
