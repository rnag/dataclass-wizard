/- C17: both pattern engines on a string are the first of two readings (ISO, pattern) in an order that `firstOf` names;
the v1 generation fold when every position met is the same one. -/
import DW.Model.C17
import DW.Lemmas.Strings

namespace DW.C17
open DW

/-- the order in which both engines try their two readings of a text: ISO first, except that a `time` target with
`-`/`+` in a pattern tries the pattern first -/
def firstOf {α} (patFirst : Bool) (iso pat : Option α) : Option α := if patFirst then pat.or iso else iso.or pat

theorem firstOf_none_left {α} (d : Bool) (b : Option α) : firstOf d none b = b := by
  cases d <;> simp [firstOf]

theorem firstOf_none_right {α} (d : Bool) (a : Option α) : firstOf d a none = a := by
  cases d <;> simp [firstOf]

theorem firstOf_false_some {α} (x : α) (b : Option α) : firstOf false (some x) b = some x := rfl

theorem firstOf_true_some {α} (a : Option α) (x : α) : firstOf true a (some x) = some x := rfl

theorem firstOf_eq_some {α} {d : Bool} {a b : Option α} {x : α} (h : firstOf d a b = some x) :
    a = some x ∨ b = some x := by
  cases d <;> rcases Option.or_eq_some_iff.mp h with h | ⟨_, h⟩ <;> simp [h]

theorem dashTime_kind {k : Kind} {p : S} (h : dashTime k p = true) : k = .time := by
  cases k with
  | time => rfl
  | _ => cases h      -- for the other kinds `dashTime` computes to `false`

theorem isoVal_kind {std : PatStd} {k : Kind} {sub : Bool} {s : S} {v : DV}
    (h : isoVal std k sub s = some v) : v.kind = k ∧ v.isSub = sub := by
  cases k <;> (obtain ⟨_, _, rfl⟩ := Option.map_eq_some_iff.mp h; exact ⟨rfl, rfl⟩)

theorem convD_kind (k : Kind) (sub : Bool) (dt : DT) : (convD k sub dt).kind = k ∧ (convD k sub dt).isSub = sub := by
  cases k <;> exact ⟨rfl, rfl⟩

theorem convV1_kind (sp : FnSpec) (dt : DT) : (convV1 sp dt).kind = sp.k ∧ (convV1 sp dt).isSub = sp.sub := by
  unfold convV1
  cases h : sp.k <;> exact ⟨rfl, rfl⟩

theorem attachTz_some (z : TZ) (t : TimeF) : (attachTz (some z) t).tz = some z := rfl

theorem convV1_tz {sp : FnSpec} {z : TZ} (htz : sp.tz = some z) (hk : sp.k ≠ .date) (dt : DT) :
    (convV1 sp dt).tz = some z := by
  unfold convV1
  cases h : sp.k with
  | date => exact absurd h hk
  | time => rw [htz]; exact attachTz_some z dt.time
  | datetime => rw [htz]; exact attachTz_some z dt.time

theorem asD_kind {std : PatStd} {k : Kind} {sub : Bool} {o : JVal} {v : DV}
    (h : asD std k sub o = .ok (some v)) : v.kind = k ∧ v.isSub = sub := by
  unfold asD at h
  split at h
  · exact isoVal_kind (Except.ok.inj h)
  · -- a number goes through `fromtimestamp` of the class asked for; anything else is `none`
    split at h
    · split at h <;> cases h
      exact ⟨rfl, rfl⟩
    · split at h <;> cases h
      exact ⟨rfl, rfl⟩
    · cases h

theorem patternTransform_str (std : PatStd) (q : PQuirks) (k : Kind) (sub : Bool) (p s : S) :
    patternTransform std q k sub p (.str s) =
      match firstOf (dashTime k p) (isoD std k sub s) ((std.strptime p s).map (convD k sub)) with
      | some v => .ok (.dv v)
      | none => if dashTime k p then dashFallthrough q sub p true else .error (.noMatch [p]) := by
  unfold patternTransform
  cases hd : dashTime k p with
  | true =>
    cases dashTime_kind hd
    simp only [↓reduceIte]
    cases std.strptime p s <;> cases isoD std .time sub s <;> rfl
  | false =>
    simp only [asD, Bool.false_eq_true, ↓reduceIte]
    cases isoD std k sub s <;> cases std.strptime p s <;> rfl

theorem patternTransform_nonstr (std : PatStd) (q : PQuirks) (k : Kind) (sub : Bool) (p : S) {o : JVal}
    (ho : ∀ s, o ≠ .str s) :
    patternTransform std q k sub p o =
      if dashTime k p then dashFallthrough q sub p false else
        match asD std k sub o with
        | .error .valueError => .error (.noMatch [p])
        | .error e => .error e
        | .ok (some v) => .ok (.dv v)
        | .ok none => .error .typeError := by
  cases o with
  | str s => exact absurd rfl (ho s)
  | _ => rfl

theorem dashFallthrough_ne_dv {q : PQuirks} {sub : Bool} {p : S} {isStr : Bool} {v : DV} :
    dashFallthrough q sub p isStr ≠ .ok (.dv v) := by
  unfold dashFallthrough
  cases q.dTimeDashSilent <;> cases sub <;> cases isStr <;> exact nofun

theorem patternTransform_ok {std : PatStd} {q : PQuirks} {k : Kind} {sub : Bool} {p : S} {o : JVal} {v : DV}
    (h : patternTransform std q k sub p o = .ok (.dv v)) :
    asD std k sub o = .ok (some v) ∨ ∃ s dt, o = .str s ∧ std.strptime p s = some dt ∧ v = convD k sub dt := by
  by_cases ho : ∃ s, o = .str s
  · obtain ⟨s, rfl⟩ := ho
    rw [patternTransform_str] at h
    split at h
    next w hw =>
      cases h
      rcases firstOf_eq_some hw with hi | hp
      · exact .inl (congrArg Except.ok hi)
      · obtain ⟨dt, hdt, rfl⟩ := Option.map_eq_some_iff.mp hp
        exact .inr ⟨s, dt, rfl, hdt, rfl⟩
    next =>
      split at h
      · exact absurd h dashFallthrough_ne_dv
      · cases h
  · rw [patternTransform_nonstr _ _ _ _ _ (fun s hs => ho ⟨s, hs⟩)] at h
    left
    split at h
    · exact absurd h dashFallthrough_ne_dv
    · split at h <;> cases h
      assumption

theorem isoD_dump (std : PatStd) (v : DV) (hlaw : IsoRT std v) :
    isoD std v.kind v.isSub (dumpDV std v) = some v := by
  cases v with
  | date s d => simp [isoD, isoTextD, isoVal, dumpDV, DV.kind, DV.isSub, show std.dateFromIso _ = _ from hlaw]
  | time s t => simp [isoD, isoTextD, isoVal, dumpDV, DV.kind, DV.isSub, zToOffset_isoZ _ hlaw.2, hlaw.1]
  | datetime s dt => simp [isoD, isoTextD, isoVal, dumpDV, DV.kind, DV.isSub, zToOffset_isoZ _ hlaw.2, hlaw.1]

/-- `.replace(tzinfo=__tz)` on a value (a `date` has no `tzinfo`) -/
def DV.withTz (tz : Option TZ) : DV → DV
  | .date s d => .date s d
  | .time s t => .time s (attachTz tz t)
  | .datetime s dt => .datetime s { dt with time := attachTz tz dt.time }

theorem withTz_none (v : DV) : v.withTz none = v := by cases v <;> rfl

theorem withTz_kind (tz : Option TZ) (v : DV) : (v.withTz tz).kind = v.kind := by cases v <;> rfl

theorem withTz_isSub (tz : Option TZ) (v : DV) : (v.withTz tz).isSub = v.isSub := by cases v <;> rfl

theorem withTz_tz {v : DV} (z : TZ) (h : v.kind ≠ .date) : (v.withTz (some z)).tz = some z := by
  cases v with
  | date s d => exact absurd rfl h
  | time s t => exact attachTz_some z t
  | datetime s dt => exact attachTz_some z dt.time

theorem isoV1_eq (std : PatStd) (sp : FnSpec) (s : S) :
    isoV1 std sp s = (isoVal std sp.k sp.sub s).map
      (fun w => if sp.k = .date ∧ sp.tz.isSome then .error .typeError else .ok (w.withTz sp.tz)) := by
  obtain ⟨k, sub, ps, tz⟩ := sp
  unfold isoV1 isoVal
  cases k with
  | date =>
    dsimp only
    cases std.dateFromIso s with
    | none => rfl
    | some d => cases tz <;> rfl
  | time => dsimp only; cases std.timeFromIso s <;> rfl
  | datetime => dsimp only; cases std.datetimeFromIso s <;> rfl

theorem isoV1_of_isoVal {std : PatStd} {sp : FnSpec} {s : S} {w : DV} (htz : sp.k = .date → sp.tz = none)
    (h : isoVal std sp.k sp.sub s = some w) : isoV1 std sp s = some (.ok (w.withTz sp.tz)) := by
  have hno : ¬ (sp.k = .date ∧ sp.tz.isSome) := fun ⟨hk, hz⟩ => by simp [htz hk] at hz
  rw [isoV1_eq, h, Option.map_some, if_neg hno]

theorem isoV1_ok {std : PatStd} {sp : FnSpec} {s : S} {v : DV} (h : isoV1 std sp s = some (.ok v)) :
    ∃ w, isoVal std sp.k sp.sub s = some w ∧ v = w.withTz sp.tz := by
  rw [isoV1_eq] at h
  obtain ⟨w, hw, h⟩ := Option.map_eq_some_iff.mp h
  split at h
  · cases h
  · exact ⟨w, hw, (Except.ok.inj h).symm⟩

theorem isoVal_of_isoRTV1 {std : PatStd} {tz : Option TZ} {v : DV} (h : IsoRTV1 std tz v) :
    ∃ w, isoVal std v.kind v.isSub (dumpDV std v) = some w ∧ w.withTz tz = v := by
  cases v with
  | date s d => exact ⟨.date s d, by simp [isoVal, dumpDV, DV.kind, DV.isSub, show std.dateFromIso _ = _ from h], rfl⟩
  | time s t =>
    obtain ⟨t', h1, h2⟩ := h
    exact ⟨.time s t', by simp [isoVal, dumpDV, DV.kind, DV.isSub, h1], by simp [DV.withTz, h2]⟩
  | datetime s dt =>
    obtain ⟨dt', h1, h2⟩ := h
    exact ⟨.datetime s dt', by simp [isoVal, dumpDV, DV.kind, DV.isSub, h1], by simp [DV.withTz, h2]⟩

theorem tryPatterns_eq (std : PatStd) (sp : FnSpec) (s : S) (ps : List S) :
    tryPatterns std sp s ps = (ps.findSome? (std.strptime · s)).map (convV1 sp) := by
  induction ps with
  | nil => rfl
  | cons p ps ih =>
    unfold tryPatterns
    rw [List.findSome?_cons, ih]
    cases std.strptime p s <;> rfl

theorem tryPatterns_none {std : PatStd} {sp : FnSpec} {s : S} (ps : List S)
    (h : ∀ p ∈ ps, std.strptime p s = none) : tryPatterns std sp s ps = none := by
  rw [tryPatterns_eq, List.findSome?_eq_none_iff.2 h, Option.map_none]

theorem tryPatterns_some {std : PatStd} {sp : FnSpec} {s : S} {v : DV} (ps : List S)
    (h : tryPatterns std sp s ps = some v) : ∃ p ∈ ps, ∃ dt, std.strptime p s = some dt ∧ v = convV1 sp dt := by
  rw [tryPatterns_eq] at h
  obtain ⟨dt, hdt, rfl⟩ := Option.map_eq_some_iff.mp h
  obtain ⟨p, hp, hps⟩ := List.exists_of_findSome?_eq_some hdt
  exact ⟨p, hp, dt, hps, rfl⟩

theorem loadToPattern_str (std : PatStd) (sp : FnSpec) (s : S) :
    loadToPattern std sp (.str s) =
      match firstOf (dashV1 sp) (isoV1 std sp s) ((tryPatterns std sp s sp.patterns).map .ok) with
      | some r => r.map .dv
      | none => .error (.noMatch sp.patterns) := by
  simp only [loadToPattern]
  cases dashV1 sp <;> cases isoV1 std sp s <;> cases tryPatterns std sp s sp.patterns <;> rfl

theorem loadToPattern_iso {std : PatStd} {sp : FnSpec} {s : S} {r : Except PErr DV} (hi : isoV1 std sp s = some r)
    (hdash : dashV1 sp = true → ∀ p ∈ sp.patterns, std.strptime p s = none) :
    loadToPattern std sp (.str s) = r.map .dv := by
  rw [loadToPattern_str, hi]
  cases hd : dashV1 sp with
  | false => rw [firstOf_false_some]
  | true => rw [tryPatterns_none _ (hdash hd), Option.map_none, firstOf_none_right]

theorem loadToPattern_ok {std : PatStd} {sp : FnSpec} {s : S} {v : DV} (h : loadToPattern std sp (.str s) = .ok (.dv v)) :
    isoV1 std sp s = some (.ok v) ∨ ∃ p ∈ sp.patterns, ∃ dt, std.strptime p s = some dt ∧ v = convV1 sp dt := by
  rw [loadToPattern_str] at h
  split at h
  next r hr =>
    rcases firstOf_eq_some hr with hi | ht
    · cases r with
      | error e => cases h
      | ok w => cases h; exact .inl hi
    · obtain ⟨w, hw, rfl⟩ := Option.map_eq_some_iff.mp ht
      cases h
      exact .inr (tryPatterns_some _ hw)
  next => cases h

theorem mapE_ok {f : JVal → PRes} (g : JVal → PV) :
    ∀ (xs : List JVal), (∀ x ∈ xs, f x = .ok (g x)) → mapE f xs = .ok (xs.map g)
  | [], _ => rfl
  | x :: xs, h => by
    have hx : f x = .ok (g x) := h x (by simp)
    simp only [mapE, hx, mapE_ok g xs (fun y hy => h y (by simp [hy])), List.map_cons]

theorem mapPairsE_ok {f h : JVal → PRes} (gk gv : JVal → PV) :
    ∀ (kvs : List (S × JVal)), (∀ kv ∈ kvs, f (.str kv.1) = .ok (gk (.str kv.1)) ∧ h kv.2 = .ok (gv kv.2)) →
      mapPairsE f h kvs = .ok (kvs.map (fun kv => (gk (.str kv.1), gv kv.2)))
  | [], _ => rfl
  | (k, v) :: r, hyp => by
    have h1 := hyp (k, v) (by simp)
    simp only [mapPairsE, h1.1, h1.2, mapPairsE_ok gk gv r (fun kv hkv => hyp kv (by simp [hkv])), List.map_cons]

/-! ### the generation fold when every position is the same (one pattern object at one type) -/

theorem find?_all_eq {α} (l : List α) (a : α) (pr : α → Bool) (hne : l ≠ []) (hall : ∀ e ∈ l, e = a) (hp : pr a = true) :
    l.find? pr = some a := by
  obtain ⟨b, t, rfl⟩ := List.exists_cons_of_ne_nil hne
  obtain rfl := hall b (by simp)
  simp [hp]

/-- invariant of `genPos` while only position `x` is met -/
structure GenInv (q : PQuirks) (pats : List PatObj) (x : Pos) (st : GenSt) : Prop where
  fns : ∀ e ∈ st.fns, e = (mkName q pats x, ownSpec pats x)
  guard : ∀ e ∈ st.guard, e = (x.pid, mkName q pats x)
  /-- so that "something was generated" gives "the guard has the entry for `x`" -/
  sync : q.v1GuardByObject = true → (st.guard = [] ↔ st.fns = [])

theorem guardLookup_inv {q : PQuirks} {pats : List PatObj} {x : Pos} {st : GenSt} (h : GenInv q pats x st)
    (hne : st.guard ≠ []) : guardLookup st.guard x.pid = some (mkName q pats x) := by
  unfold guardLookup
  rw [find?_all_eq st.guard (x.pid, mkName q pats x) _ hne h.guard (by simp)]
  rfl

theorem genPos_inv {q : PQuirks} {pats : List PatObj} {x : Pos} {st : GenSt} (h : GenInv q pats x st) :
    GenInv q pats x (genPos q pats st x) ∧ (genPos q pats st x).fns ≠ [] := by
  unfold genPos
  cases hq : q.v1GuardByObject with
  | true =>
    simp only [↓reduceIte]
    by_cases hg : st.guard = []
    · -- nothing generated yet: the guard misses, and both lists get their first entry
      simp only [hg, guardLookup, List.find?_nil, Option.map_none, (h.sync hq).mp hg, List.nil_append]
      exact ⟨⟨by simp, by simp, by simp⟩, by simp⟩
    · simp only [guardLookup_inv h hg]
      exact ⟨h, fun hf => hg ((h.sync hq).mpr hf)⟩
  | false =>
    simp only [Bool.false_eq_true, ↓reduceIte]
    refine ⟨⟨?_, h.guard, by simp [hq]⟩, by simp⟩
    intro e he
    rcases List.mem_append.mp he with h1 | h1
    · exact h.fns e h1
    · exact List.mem_singleton.mp h1

theorem genFold_inv {q : PQuirks} {pats : List PatObj} {x : Pos} :
    ∀ (ps : List Pos) (st : GenSt), (∀ y ∈ ps, y = x) → GenInv q pats x st → ps ≠ [] ∨ st.fns ≠ [] →
      GenInv q pats x (ps.foldl (genPos q pats) st) ∧ (ps.foldl (genPos q pats) st).fns ≠ []
  | [], st, _, h, hne => ⟨h, hne.resolve_left (· rfl)⟩
  | y :: ps, st, hall, h, _ => by
    obtain rfl := hall y (by simp)
    have h1 := genPos_inv h
    exact genFold_inv ps _ (fun z hz => hall z (by simp [hz])) h1.1 (.inr h1.2)

theorem genPositions_inv {q : PQuirks} {pats : List PatObj} {x : Pos} (ps : List Pos)
    (hall : ∀ y ∈ ps, y = x) (hne : ps ≠ []) :
    GenInv q pats x (genPositions q pats ps) ∧ (genPositions q pats ps).fns ≠ [] :=
  genFold_inv ps {} hall ⟨by simp, by simp, by simp⟩ (.inl hne)

theorem mkName_uniq {q : PQuirks} {pats : List PatObj} {x : Pos} {pid : Nat} {k : Kind} {sub : Bool}
    (h : mkName q pats x = .uniq pid k sub) : pid = x.pid ∧ k = x.k ∧ sub = x.sub := by
  unfold mkName at h
  split at h
  · split at h <;> cases h
  · cases h; exact ⟨rfl, rfl, rfl⟩

theorem resolve_inv {q : PQuirks} {pats : List PatObj} {x : Pos} {st : GenSt} (h : GenInv q pats x st)
    (hf : st.fns ≠ []) : resolve q pats st x = ownSpec pats x := by
  have hname : nameAt q pats st x = mkName q pats x := by
    unfold nameAt
    split
    next hq => rw [guardLookup_inv h (fun hc => hf ((h.sync hq).mp hc))]; rfl
    next => rfl
  have hl : lookupLast st.fns (mkName q pats x) = some (ownSpec pats x) := by
    unfold lookupLast
    rw [find?_all_eq _ (mkName q pats x, ownSpec pats x) _ (by simpa using hf)
      (by intro e he; exact h.fns e (by simpa using he)) (by simp)]
    rfl
  unfold resolve
  rw [hname]
  cases hm : mkName q pats x with
  | uniq pid k sub => obtain ⟨rfl, rfl, rfl⟩ := mkName_uniq hm; rfl
  | _ => simp only; rw [← hm, hl]; rfl

end DW.C17
