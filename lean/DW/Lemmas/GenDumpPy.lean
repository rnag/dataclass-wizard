/-
The working reading rule of the definite-assignment checker and Python's literal rule accept the same bodies, as long as the scope
lists every written name (and the initially assigned ones) among its locals — which `genScope` does by construction.
-/
import DW.Lemmas.GenDump

namespace DW.GenDump
open DW.Names

/-- the names of `L` are locals of `sc`; said of the assigned names, it makes the two reading rules agree (`readOk_eq_py`) -/
def Knows (sc : Scope) (L : List S) : Prop := ∀ n ∈ L, n ∈ sc.locals

theorem knows_append {sc : Scope} {a b : List S} : Knows sc (a ++ b) ↔ Knows sc a ∧ Knows sc b := List.forall_mem_append

theorem Knows.within {sc : Scope} {asg w out : List S} (ha : Knows sc asg) (hw : Knows sc w) (h : Within asg w out) : Knows sc out :=
  fun n hn => (h.2 n hn).elim (ha n) (hw n)

theorem readOk_eq_py (sc : Scope) (asg : List S) (n : S) (h : Knows sc asg) : sc.readOk asg n = sc.readOkPy asg n := by
  unfold Scope.readOk Scope.readOkPy
  simp only [List.contains_eq_mem]
  by_cases hl : n ∈ sc.locals
  · simp [hl]
  · have hn : n ∉ asg := fun hm => hl (h n hm)
    simp [hl, hn]

theorem readsOk_eq_py (sc : Scope) (asg ns : List S) (h : Knows sc asg) : sc.readsOk asg ns = sc.readsOkPy asg ns :=
  congrArg ns.all (funext fun n => readOk_eq_py sc asg n h)

theorem checkSimples_eq_py (sc : Scope) (ps : List Simple) (asg : List S) (ha : Knows sc asg)
    (hw : Knows sc (ps.flatMap Simple.writes)) : checkSimplesPy sc asg ps = checkSimples sc asg ps := by
  induction ps generalizing asg with
  | nil => rfl
  | cons s r ih =>
    rw [List.flatMap_cons, knows_append] at hw
    simp only [checkSimplesPy, checkSimples, readsOk_eq_py sc asg s.reads ha]
    split
    · exact ih (s.writes ++ asg) (knows_append.2 ⟨hw.1, ha⟩) hw.2
    · rfl

theorem checkL0s_eq_py (sc : Scope) (ls : List L0) (asg : List S) (ha : Knows sc asg) (hw : Knows sc (ls.flatMap L0.writes)) :
    checkL0sPy sc asg ls = checkL0s sc asg ls := by
  induction ls generalizing asg with
  | nil => rfl
  | cons l r ih =>
    rw [List.flatMap_cons, knows_append] at hw
    simp only [checkL0sPy, checkL0s, L0.check, checkSimples_eq_py sc l.parts asg ha hw.1]
    cases hc : checkSimples sc asg l.parts with
    | none => rfl
    | some a => exact ih a (ha.within hw.1 (checkSimples_within sc _ _ _ hc)) hw.2

theorem L1.check_eq_py (sc : Scope) (x : L1) (asg : List S) (ha : Knows sc asg) (hw : Knows sc x.writes) :
    x.checkPy sc asg = x.check sc asg := by
  cases x with
  | line l => exact checkSimples_eq_py sc l.parts asg ha hw
  | for_ ts it body =>
    have hw := knows_append.1 hw
    simp only [L1.checkPy, L1.check, readsOk_eq_py sc asg it.reads ha,
      checkL0s_eq_py sc body (ts ++ asg) (knows_append.2 ⟨hw.1, ha⟩) hw.2]

theorem checkL1s_eq_py (sc : Scope) (xs : List L1) (asg : List S) (ha : Knows sc asg) (hw : Knows sc (xs.flatMap L1.writes)) :
    checkL1sPy sc asg xs = checkL1s sc asg xs := by
  induction xs generalizing asg with
  | nil => rfl
  | cons x r ih =>
    rw [List.flatMap_cons, knows_append] at hw
    simp only [checkL1sPy, checkL1s, L1.check_eq_py sc x asg ha hw.1]
    cases hc : x.check sc asg with
    | none => rfl
    | some a => exact ih a (ha.within hw.1 (L1.check_within hc)) hw.2

theorem L2.check_eq_py (sc : Scope) (x : L2) (asg : List S) (ha : Knows sc asg) (hw : Knows sc x.writes) :
    x.checkPy sc asg = x.check sc asg := by
  cases x with
  | s y => exact L1.check_eq_py sc y asg ha hw
  | if_ c thn els =>
    have hw := knows_append.1 hw
    simp only [L2.checkPy, L2.check, readsOk_eq_py sc asg c.reads ha, checkL1s_eq_py sc thn asg ha hw.1]
    cases els with
    | none => rfl
    | some e => simp only [checkL1s_eq_py sc e asg ha hw.2]

theorem checkL2s_eq_py (sc : Scope) (xs : List L2) (asg : List S) (ha : Knows sc asg) (hw : Knows sc (xs.flatMap L2.writes)) :
    checkL2sPy sc asg xs = checkL2s sc asg xs := by
  induction xs generalizing asg with
  | nil => rfl
  | cons x r ih =>
    rw [List.flatMap_cons, knows_append] at hw
    simp only [checkL2sPy, checkL2s, L2.check_eq_py sc x asg ha hw.1]
    cases hc : x.check sc asg with
    | none => rfl
    | some a => exact ih a (ha.within hw.1 (L2.check_within hc)) hw.2

theorem wellScopedPy_all (p : Char → Bool) (g : GIn) : wellScopedPy p g = true := by
  unfold wellScopedPy
  rw [checkL2s_eq_py (genScope p g) (genBody p g) params (fun _ => List.mem_append_left _) (fun _ => List.mem_append_right _)]
  exact wellScoped_all p g

end DW.GenDump
