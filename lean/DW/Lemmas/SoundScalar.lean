/- Soundness of the scalar loaders of the default engine (definitions + the case analysis behind `C05_sound_scalar`). -/
import DW.Generated.Tables
import DW.Model.Load
import DW.Lemmas.Post

namespace DW.Props.C05
open DW

/-- a value is the Literal member `l`: built by the same constructor from the same value (the default engine returns the member
itself, `l.toPy`; the v1 engine returns the input, compared with `==` and by type: `litEqPy` in `SoundV1`) -/
def litIs (l : Lit) (v : PyVal) : Bool :=
  match l, v with
  | .none, .none => true
  | .bool a, .bool b => a == b
  | .int a, .int b => a == b
  | .float a, .float b => a == b
  | .str a, .str b => a == b
  | _, _ => false

theorem litIs_toPy (l : Lit) : litIs l l.toPy = true := by
  cases l <;> simp [litIs, Lit.toPy]

/-- conformance of a scalar result to its annotation (exact type; Literal by value *and* type) -/
def conformsScalar : Ty → PyVal → Bool
  | .int, .int _ => true
  | .float, .float _ => true
  | .str, .str _ => true
  | .bool, .bool _ => true
  | .leaf k, .leaf k' false _ => k == k'
  | .timedelta, .timedelta _ => true
  | .enum n ms, .enum n' m v => n == n' && ms.contains (m, v)
  | .literal vs, v => vs.any (fun l => litIs l v)
  | _, _ => false

def isScalarTy : Ty → Bool
  | .int | .float | .str | .bool | .leaf _ | .timedelta | .enum _ _ | .literal _ => true
  | _ => false

/-! Every branch of a scalar converter is an error or returns a value built with the constructor of its annotation: the
lemmas below walk through the branches and find one or the other. -/

theorem asStr_conf (o : JVal) : Post (asStr o) (fun y => conformsScalar .str y = true) := by
  unfold asStr
  split <;> first | exact .error | exact .pure rfl

theorem asInt_conf (std : Std) (o : JVal) : Post (asInt std o) (fun y => conformsScalar .int y = true) := by
  unfold asInt
  repeat' split
  all_goals first | exact .error | exact .pure rfl

theorem asFloat_conf (std : Std) (o : JVal) : Post (asFloat std o) (fun y => conformsScalar .float y = true) := by
  unfold asFloat
  repeat' split
  all_goals first | exact .error | exact .pure rfl

theorem asDecimal_conf (std : Std) (o : JVal) : Post (asDecimal std o) (fun y => conformsScalar (.leaf .decimal) y = true) := by
  unfold asDecimal
  repeat' split
  all_goals first | exact .error | exact .pure rfl

theorem asPath_conf (std : Std) (o : JVal) : Post (asPath std o) (fun y => conformsScalar (.leaf .path) y = true) := by
  unfold asPath
  split <;> first | exact .error | exact .pure rfl

theorem asUuid_conf (std : Std) (o : JVal) : Post (asUuid std o) (fun y => conformsScalar (.leaf .uuid) y = true) := by
  unfold asUuid
  repeat' split
  all_goals first | exact .error | exact .pure rfl

theorem asDate_conf (std : Std) (o : JVal) : Post (asDate std o) (fun y => conformsScalar (.leaf .date) y = true) := by
  unfold asDate
  repeat' split
  all_goals first | exact .error | exact .pure rfl

theorem asTime_conf (std : Std) (o : JVal) : Post (asTime std o) (fun y => conformsScalar (.leaf .time) y = true) := by
  unfold asTime
  repeat' split
  all_goals first | exact .error | exact .pure rfl

theorem asDatetime_conf (std : Std) (o : JVal) : Post (asDatetime std o) (fun y => conformsScalar (.leaf .datetime) y = true) := by
  unfold asDatetime
  repeat' split
  all_goals first | exact .error | exact .pure rfl

theorem asTimedelta_conf (std : Std) (o : JVal) : Post (asTimedelta std o) (fun y => conformsScalar .timedelta y = true) := by
  unfold asTimedelta
  split
  · dsimp only
    repeat' split
    all_goals first | exact .error | exact .pure rfl
  · repeat' split
    all_goals first | exact .error | exact .pure rfl

/-- `EnumCls(o)` returns a member of the class -/
theorem asEnum_conf (name : S) (members : List (S × Lit)) (o : JVal) :
    Post (asEnum name members o) (fun y => conformsScalar (.enum name members) y = true) := by
  unfold asEnum
  split
  · next m hm =>
    have := List.mem_of_find?_eq_some hm
    exact .pure (by simp [conformsScalar, this])
  · exact .error

theorem asLiteral_conf (vs : List Lit) (o : JVal) : Post (asLiteral vs o) (fun y => conformsScalar (.literal vs) y = true) := by
  unfold asLiteral
  split
  · exact .error
  · split
    · exact .error
    · next l hl =>
      exact .ite (fun _ => .pure (List.any_eq_true.2 ⟨l, List.mem_of_find?_eq_some hl, litIs_toPy l⟩)) (fun _ => .error)

theorem sound_scalar (std : Std) (cfg : Option MetaCfg) (t : Ty) (ht : isScalarTy t = true) (o : JVal) (y : PyVal)
    (h : loadD std cfg t o = .ok y) : conformsScalar t y = true := by
  -- at each scalar annotation `loadD` is, by definition, the converter of that annotation
  cases t <;> first | cases ht | skip
  case int => exact asInt_conf std o y h
  case float => exact asFloat_conf std o y h
  case str => exact asStr_conf o y h
  case bool => cases h; rfl
  case leaf k =>
    cases k
    · exact asDecimal_conf std o y h
    · exact asPath_conf std o y h
    · exact asUuid_conf std o y h
    · exact asDate_conf std o y h
    · exact asTime_conf std o y h
    · exact asDatetime_conf std o y h
  case timedelta => exact asTimedelta_conf std o y h
  case enum n ms => exact asEnum_conf n ms o y h
  case literal vs => exact asLiteral_conf vs o y h

end DW.Props.C05
