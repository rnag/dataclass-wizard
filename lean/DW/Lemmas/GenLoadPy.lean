/-
For the load-generator model: the working reading rule and Python's literal rule accept the same bodies, as long as the scope lists
every bound name (and the initially assigned ones) among its locals — which `genScope` does by construction.
-/
import DW.Lemmas.GenLoad

namespace DW.GenLoad
open DW.Names

/-- the names of `L` are locals of `sc`; said of the assigned names, it makes the two reading rules agree (`readOk_eq_py`) -/
def Knows (sc : Scope) (L : List S) : Prop := ∀ n ∈ L, n ∈ sc.locals

theorem readOk_eq_py (sc : Scope) (asg : List S) (n : S) (h : Knows sc asg) : sc.readOk asg n = sc.readOkPy asg n := by
  unfold Scope.readOk Scope.readOkPy
  simp only [List.contains_eq_mem]
  by_cases hl : n ∈ sc.locals
  · simp [hl]
  · have hn : n ∉ asg := fun hm => hl (h n hm)
    simp [hl, hn]

theorem readsOk_eq_py (sc : Scope) (asg ns : List S) (h : Knows sc asg) : sc.readsOk asg ns = sc.readsOkPy asg ns :=
  congrArg ns.all (funext fun n => readOk_eq_py sc asg n h)

theorem knows_append {sc : Scope} {a b : List S} : Knows sc (a ++ b) ↔ Knows sc a ∧ Knows sc b := List.forall_mem_append

theorem checkParts_eq_py (sc : Scope) (ps : List Part) (asg : List S) (ha : Knows sc asg) (hw : Knows sc (ps.flatMap (·.writes))) :
    checkPartsPy sc asg ps = checkParts sc asg ps := by
  induction ps generalizing asg with
  | nil => rfl
  | cons q r ih =>
    rw [List.flatMap_cons, knows_append] at hw
    simp only [checkPartsPy, checkParts, readsOk_eq_py sc asg q.reads ha]
    split
    · exact ih (q.writes ++ asg) (knows_append.2 ⟨hw.1, ha⟩) hw.2
    · rfl

theorem checkParts_out (sc : Scope) (ps : List Part) (asg out : List S) (h : checkParts sc asg ps = some out) :
    ∀ n ∈ out, n ∈ asg ∨ n ∈ ps.flatMap (·.writes) := by
  induction ps generalizing asg with
  | nil => cases h; exact fun n hn => Or.inl hn
  | cons q r ih =>
    simp only [checkParts, Option.ite_none_right_eq_some] at h
    intro n hn
    rw [List.flatMap_cons, List.mem_append, or_left_comm, ← or_assoc, ← List.mem_append]
    exact ih _ h.2 n hn

/-- what a flow assigns comes from before or from the statement -/
def Flow.within (f : Flow) (asg w : List S) : Prop :=
  match f with
  | none => True
  | some out => ∀ n ∈ out, n ∈ asg ∨ n ∈ w

theorem Flow.within.mono {f : Flow} {A asg w w' : List S} (h : f.within A w) (hA : ∀ n ∈ A, n ∈ asg ∨ n ∈ w')
    (hw : ∀ n ∈ w, n ∈ w') : f.within asg w' := by
  cases f with
  | none => trivial
  | some out => exact fun n hn => (h n hn).elim (hA n) fun h => .inr (hw n h)

theorem Flow.within.inl {f : Flow} {asg w w' : List S} (h : f.within asg w) : f.within asg (w ++ w') :=
  h.mono (fun _ h => .inl h) fun _ => List.mem_append_left _

theorem Flow.within.inr {f : Flow} {asg w w' : List S} (h : f.within asg w') : f.within asg (w ++ w') :=
  h.mono (fun _ h => .inl h) fun _ => List.mem_append_right _

theorem meet_within {a b : Flow} {asg w : List S} (ha : a.within asg w) (hb : b.within asg w) : (a.meet b).within asg w :=
  match a, b with
  | none, _ => hb
  | some _, none => ha
  | some _, some _ => fun n hn => ha n (List.mem_filter.1 hn).1

theorem safePrefix_sub (ss : List Stmt) : ∀ n ∈ safePrefixWrites ss, n ∈ writesList ss := by
  intro n hn
  cases ss with
  | nil => simp [safePrefixWrites] at hn
  | cons s r =>
    cases s with
    | line parts =>
      simp only [safePrefixWrites, List.mem_flatMap] at hn
      obtain ⟨q, hq, hnq⟩ := hn
      simp only [writesList, Stmt.writes, List.mem_append, List.mem_flatMap]
      exact Or.inl ⟨q, (List.takeWhile_sublist _).subset hq, hnq⟩
    | _ => simp [safePrefixWrites] at hn

mutual
theorem Stmt.check_within (sc : Scope) : ∀ (s : Stmt) (asg : List S) (f : Flow), s.check sc asg = some f → f.within asg s.writes
  | .line parts, asg, f, h => by
    simp only [Stmt.check, Option.map_eq_some_iff] at h
    obtain ⟨out, ho, rfl⟩ := h
    exact checkParts_out sc parts asg out ho
  | .comment _, _, _, rfl => fun _ hn => Or.inl hn
  | .exit _ _, asg, f, h => by
    simp only [Stmt.check, Option.ite_none_right_eq_some, Option.some.injEq] at h
    obtain ⟨-, rfl⟩ := h
    trivial
  | .if_ _ _ thn elifs els, asg, f, h => by
    simp only [Stmt.check, Option.ite_none_right_eq_some] at h
    obtain ⟨-, h⟩ := h
    split at h
    · next a b c ha hb hc =>
      cases h
      exact meet_within (meet_within (checkList_within sc thn asg a ha).inl (checkElifs_within sc elifs asg b hb).inr).inl
        (checkElse_within sc els asg c hc).inr
    · cases h
  | .for_ _ _ _ _, asg, f, h => by
    simp only [Stmt.check, Option.ite_none_right_eq_some] at h
    obtain ⟨-, h⟩ := h
    split at h
    · cases h; exact fun n hn => Or.inl hn
    · cases h
  | .try_ body _ _ _ handler, asg, f, h => by
    simp only [Stmt.check, Option.ite_none_right_eq_some] at h
    obtain ⟨-, h⟩ := h
    split at h
    · next a b ha hb =>
      cases h
      refine meet_within (checkList_within sc body asg a ha).inl.inl
        ((checkList_within sc handler _ b hb).mono (fun n h => ?_) fun _ => List.mem_append_right _)
      rcases List.mem_append.1 h with h | h
      · exact .inr (List.mem_append_left _ (List.mem_append.2 ((List.mem_append.1 h).imp_left (safePrefix_sub body n))))
      · exact .inl h
    · cases h
theorem checkList_within (sc : Scope) : ∀ (ss : List Stmt) (asg : List S) (f : Flow), checkList sc asg ss = some f →
    f.within asg (writesList ss)
  | [], _, _, rfl => fun _ hn => Or.inl hn
  | s :: r, asg, f, h => by
    simp only [checkList] at h
    split at h
    · cases h
    · cases h; trivial
    · next a hs =>
      exact (checkList_within sc r a f h).mono
        (fun n hn => (Stmt.check_within sc s asg (some a) hs n hn).imp_right (List.mem_append_left _))
        fun _ => List.mem_append_right _
theorem checkElifs_within (sc : Scope) : ∀ (es : List (S × List S × List Stmt)) (asg : List S) (f : Flow),
    checkElifs sc asg es = some f → f.within asg (writesElifs es)
  | [], _, _, rfl => trivial
  | (_, _, body) :: r, asg, f, h => by
    simp only [checkElifs, Option.ite_none_right_eq_some] at h
    obtain ⟨-, h⟩ := h
    split at h
    · next a b ha hb =>
      cases h
      exact meet_within (checkList_within sc body asg a ha).inl (checkElifs_within sc r asg b hb).inr
    · cases h
theorem checkElse_within (sc : Scope) : ∀ (els : Option (List Stmt)) (asg : List S) (f : Flow),
    checkElse sc asg els = some f → f.within asg (writesElse els)
  | none, _, _, rfl => fun _ hn => Or.inl hn
  | some e, asg, f, h => checkList_within sc e asg f h
end

theorem Knows.within {sc : Scope} {asg w out : List S} (ha : Knows sc asg) (hw : Knows sc w)
    (h : Flow.within (some out) asg w) : Knows sc out :=
  fun n hn => (h n hn).elim (ha n) (hw n)

mutual
theorem Stmt.check_eq_py (sc : Scope) : ∀ (s : Stmt) (asg : List S), Knows sc asg → Knows sc s.writes →
    s.checkPy sc asg = s.check sc asg
  | .line parts, asg, ha, hw => by
    simp only [Stmt.checkPy, Stmt.check, checkParts_eq_py sc parts asg ha hw]
  | .comment _, _, _, _ => rfl
  | .exit _ rs, asg, ha, _ => by simp only [Stmt.checkPy, Stmt.check, readsOk_eq_py sc asg rs ha]
  | .if_ _ cr thn elifs els, asg, ha, hw => by
    obtain ⟨hw, h3⟩ := knows_append.1 hw
    obtain ⟨h1, h2⟩ := knows_append.1 hw
    simp only [Stmt.checkPy, Stmt.check, readsOk_eq_py sc asg cr ha, checkList_eq_py sc thn asg ha h1,
      checkElifs_eq_py sc elifs asg ha h2, checkElse_eq_py sc els asg ha h3]
  | .for_ tg _ ir body, asg, ha, hw => by
    obtain ⟨ht, h1⟩ := List.forall_mem_cons.1 hw
    simp only [Stmt.checkPy, Stmt.check, readsOk_eq_py sc asg ir ha,
      checkList_eq_py sc body (tg :: asg) (List.forall_mem_cons.2 ⟨ht, ha⟩) h1]
  | .try_ body _ er asName handler, asg, ha, hw => by
    obtain ⟨hw, h2⟩ := knows_append.1 hw
    obtain ⟨h1, hn⟩ := knows_append.1 hw
    have h3 : Knows sc (safePrefixWrites body ++ asNames asName ++ asg) :=
      knows_append.2 ⟨knows_append.2 ⟨fun n hn => h1 n (safePrefix_sub body n hn), hn⟩, ha⟩
    simp only [Stmt.checkPy, Stmt.check, readsOk_eq_py sc asg er ha, checkList_eq_py sc body asg ha h1,
      checkList_eq_py sc handler _ h3 h2]
theorem checkList_eq_py (sc : Scope) : ∀ (ss : List Stmt) (asg : List S), Knows sc asg → Knows sc (writesList ss) →
    checkListPy sc asg ss = checkList sc asg ss
  | [], _, _, _ => rfl
  | s :: r, asg, ha, hw => by
    obtain ⟨hs, hr⟩ := knows_append.1 hw
    simp only [checkListPy, checkList, Stmt.check_eq_py sc s asg ha hs]
    rcases hc : s.check sc asg with _ | _ | a
    · rfl
    · rfl
    · exact checkList_eq_py sc r a (ha.within hs (Stmt.check_within sc s asg (some a) hc)) hr
theorem checkElifs_eq_py (sc : Scope) : ∀ (es : List (S × List S × List Stmt)) (asg : List S), Knows sc asg →
    Knows sc (writesElifs es) → checkElifsPy sc asg es = checkElifs sc asg es
  | [], _, _, _ => rfl
  | (_, cr, body) :: r, asg, ha, hw => by
    obtain ⟨h1, h2⟩ := knows_append.1 hw
    simp only [checkElifsPy, checkElifs, readsOk_eq_py sc asg cr ha, checkList_eq_py sc body asg ha h1,
      checkElifs_eq_py sc r asg ha h2]
theorem checkElse_eq_py (sc : Scope) : ∀ (els : Option (List Stmt)) (asg : List S), Knows sc asg →
    Knows sc (writesElse els) → checkElsePy sc asg els = checkElse sc asg els
  | none, _, _, _ => rfl
  | some e, asg, ha, hw => checkList_eq_py sc e asg ha hw
end

theorem wellScopedPy_all (p : Char → Bool) (g : LIn) : wellScopedPy p g = true := by
  unfold wellScopedPy
  rw [checkList_eq_py (genScope p g) (genBody p g) [t "o"] (fun _ => List.mem_append_left _) (fun _ => List.mem_cons_of_mem _)]
  exact wellScoped_all p g

end DW.GenLoad
