/-
Lemmas about the load-generator model `DW/Model/GenLoad.lean`: an abstract checker that runs on concrete name lists and is sound for
the scoping checker (so that the fixed parts of the template can be checked by evaluation), and the scoping theorem for every class.
-/
import DW.Model.GenLoad
namespace DW.GenLoad
open DW.Names

/-- abstract reading test: `known` names are surely assigned, `ok` names are fine from outside -/
def ard (known ok : List S) (ns : List S) : Bool := ns.all (fun n => known.contains n || ok.contains n)

def acheckParts (ok : List S) : List S → List Part → Option (List S)
  | known, [] => some known
  | known, p :: r => if ard known ok p.reads then acheckParts ok (p.writes ++ known) r else none

mutual
def Stmt.acheck (ok : List S) (known : List S) : Stmt → Option Flow
  | .line parts => (acheckParts ok known parts).map some
  | .comment _ => some (some known)
  | .exit _ rs => if ard known ok rs then some none else none
  | .if_ _ cr thn elifs els =>
      if ard known ok cr then
        match acheckList ok known thn, acheckElifs ok known elifs, acheckElse ok known els with
        | some a, some b, some c => some ((a.meet b).meet c)
        | _, _, _ => none
      else none
  | .for_ t _ ir body =>
      if ard known ok ir then
        match acheckList ok (t :: known) body with
        | some _ => some (some known)
        | none => none
      else none
  | .try_ body _ er asName handler =>
      if ard known ok er then
        match acheckList ok known body,
              acheckList ok (safePrefixWrites body ++ asNames asName ++ known) handler with
        | some a, some b => some (a.meet b)
        | _, _ => none
      else none
def acheckList (ok : List S) (known : List S) : List Stmt → Option Flow
  | [] => some (some known)
  | s :: r =>
    match s.acheck ok known with
    | none => none
    | some none => some none
    | some (some a) => acheckList ok a r
def acheckElifs (ok : List S) (known : List S) : List (S × List S × List Stmt) → Option Flow
  | [] => some none
  | (_, cr, body) :: r =>
    if ard known ok cr then
      match acheckList ok known body, acheckElifs ok known r with
      | some a, some b => some (a.meet b)
      | _, _ => none
    else none
def acheckElse (ok : List S) (known : List S) : Option (List Stmt) → Option Flow
  | none => some (some known)
  | some e => acheckList ok known e
end

/-- a concrete flow is at least an abstract one -/
def Flow.ge (c a : Flow) : Prop :=
  match a, c with
  | none, none => True
  | none, some _ => False
  | some _, none => True        -- the concrete run does not fall through: vacuous
  | some ka, some kc => ∀ n ∈ ka, n ∈ kc

/-- every name of `ok` is held outside the function and is no local of it: readable whatever is assigned -/
structure OkOuter (sc : Scope) (ok : List S) : Prop where
  h : ∀ n ∈ ok, sc.locals.contains n = false ∧ sc.outer.contains n = true

theorem readOk_of_mem {sc : Scope} {asg : List S} {n : S} (h : n ∈ asg) : sc.readOk asg n = true := by
  simp [Scope.readOk, h]

theorem readsOk_of_ard (sc : Scope) (ok known asg ns : List S) (ho : OkOuter sc ok) (hk : ∀ n ∈ known, n ∈ asg)
    (h : ard known ok ns = true) : sc.readsOk asg ns = true := by
  refine List.all_eq_true.2 fun n hn => ?_
  have := List.all_eq_true.1 h n hn
  simp only [Bool.or_eq_true, List.contains_iff_mem] at this
  rcases this with h1 | h1
  · exact readOk_of_mem (hk n h1)
  · simp only [Scope.readOk, ho.h n h1, Bool.not_false, Bool.and_self, Bool.or_true]

theorem acheckParts_sound (sc : Scope) (ok : List S) (ho : OkOuter sc ok) : ∀ (ps : List Part) (known asg : List S) (k' : List S),
    (∀ n ∈ known, n ∈ asg) → acheckParts ok known ps = some k' →
    ∃ a', checkParts sc asg ps = some a' ∧ ∀ n ∈ k', n ∈ a'
  | [] => fun known asg k' hk h => by
    cases h
    exact ⟨asg, rfl, hk⟩
  | p :: r => fun known asg k' hk h => by
    simp only [acheckParts, Option.ite_none_right_eq_some] at h
    simp only [checkParts, readsOk_of_ard sc ok known asg p.reads ho hk h.1, if_true]
    exact acheckParts_sound sc ok ho r (p.writes ++ known) (p.writes ++ asg) k'
      (fun n hn => List.mem_append.2 ((List.mem_append.1 hn).imp_right (hk n))) h.2

theorem meet_ge (c1 c2 a1 a2 : Flow) (h1 : c1.ge a1) (h2 : c2.ge a2) : (c1.meet c2).ge (a1.meet a2) := by
  cases a1 <;> cases a2 <;> cases c1 <;> cases c2 <;> simp_all [Flow.ge, Flow.meet, List.mem_filter]

theorem ge_refl_sub (ka kc : List S) (h : ∀ n ∈ ka, n ∈ kc) : Flow.ge (some kc) (some ka) := h

mutual
theorem Stmt.acheck_sound (sc : Scope) (ok : List S) (ho : OkOuter sc ok) : ∀ (s : Stmt) (known asg : List S) (fa : Flow),
    (∀ n ∈ known, n ∈ asg) → s.acheck ok known = some fa → ∃ fc, s.check sc asg = some fc ∧ fc.ge fa
  | .line parts => fun known asg fa hk h => by
    simp only [Stmt.acheck, Option.map_eq_some_iff] at h
    obtain ⟨k', hk', rfl⟩ := h
    obtain ⟨a', ha', hsub⟩ := acheckParts_sound sc ok ho parts known asg k' hk hk'
    exact ⟨some a', by simp [Stmt.check, ha'], hsub⟩
  | .comment _ => fun known asg fa hk h => by
    cases h
    exact ⟨some asg, rfl, hk⟩
  | .exit _ rs => fun known asg fa hk h => by
    simp only [Stmt.acheck, Option.ite_none_right_eq_some, Option.some.injEq] at h
    obtain ⟨hr, rfl⟩ := h
    exact ⟨none, by simp [Stmt.check, readsOk_of_ard sc ok known asg rs ho hk hr], trivial⟩
  | .if_ _ cr thn elifs els => fun known asg fa hk h => by
    simp only [Stmt.acheck, Option.ite_none_right_eq_some] at h
    obtain ⟨hr, h⟩ := h
    split at h
    · next a b c ha hb hc =>
      cases h
      obtain ⟨ca, hca, gea⟩ := acheckList_sound sc ok ho thn known asg a hk ha
      obtain ⟨cb, hcb, geb⟩ := acheckElifs_sound sc ok ho elifs known asg b hk hb
      obtain ⟨cc, hcc, gec⟩ := acheckElse_sound sc ok ho els known asg c hk hc
      refine ⟨(ca.meet cb).meet cc, ?_, meet_ge _ _ _ _ (meet_ge _ _ _ _ gea geb) gec⟩
      simp only [Stmt.check, readsOk_of_ard sc ok known asg cr ho hk hr, if_true, hca, hcb, hcc]
    · cases h
  | .for_ t _ ir body => fun known asg fa hk h => by
    simp only [Stmt.acheck, Option.ite_none_right_eq_some] at h
    obtain ⟨hr, h⟩ := h
    split at h
    · next fb hb =>
      cases h
      obtain ⟨cb, hcb, _⟩ := acheckList_sound sc ok ho body (t :: known) (t :: asg) fb
        (fun n hn => List.mem_cons.2 ((List.mem_cons.1 hn).imp_right (hk n))) hb
      exact ⟨some asg, by simp [Stmt.check, readsOk_of_ard sc ok known asg ir ho hk hr, hcb], hk⟩
    · cases h
  | .try_ body _ er asName handler => fun known asg fa hk h => by
    simp only [Stmt.acheck, Option.ite_none_right_eq_some] at h
    obtain ⟨hr, h⟩ := h
    split at h
    · next a b ha hb =>
      cases h
      obtain ⟨ca, hca, gea⟩ := acheckList_sound sc ok ho body known asg a hk ha
      obtain ⟨cb, hcb, geb⟩ := acheckList_sound sc ok ho handler _
        (safePrefixWrites body ++ asNames asName ++ asg) b
        (fun n hn => List.mem_append.2 ((List.mem_append.1 hn).imp_right (hk n))) hb
      refine ⟨ca.meet cb, ?_, meet_ge _ _ _ _ gea geb⟩
      simp only [Stmt.check, readsOk_of_ard sc ok known asg er ho hk hr, if_true, hca, hcb]
    · cases h
theorem acheckList_sound (sc : Scope) (ok : List S) (ho : OkOuter sc ok) : ∀ (ss : List Stmt) (known asg : List S) (fa : Flow),
    (∀ n ∈ known, n ∈ asg) → acheckList ok known ss = some fa → ∃ fc, checkList sc asg ss = some fc ∧ fc.ge fa
  | [] => fun known asg fa hk h => by
    cases h
    exact ⟨some asg, rfl, hk⟩
  | s :: r => fun known asg fa hk h => by
    simp only [acheckList] at h
    split at h
    · cases h
    · next hs =>
      cases h
      obtain ⟨fc, hfc, ge⟩ := Stmt.acheck_sound sc ok ho s known asg none hk hs
      cases fc with
      | none => exact ⟨none, by simp [checkList, hfc], trivial⟩
      | some _ => exact ge.elim
    · next a hs =>
      obtain ⟨fc, hfc, ge⟩ := Stmt.acheck_sound sc ok ho s known asg (some a) hk hs
      cases fc with
      | none => exact ⟨none, by simp [checkList, hfc], by cases fa <;> trivial⟩
      | some ac =>
        obtain ⟨fc2, hfc2, ge2⟩ := acheckList_sound sc ok ho r a ac fa ge h
        exact ⟨fc2, by simp [checkList, hfc, hfc2], ge2⟩
theorem acheckElifs_sound (sc : Scope) (ok : List S) (ho : OkOuter sc ok) : ∀ (es : List (S × List S × List Stmt))
    (known asg : List S) (fa : Flow),
    (∀ n ∈ known, n ∈ asg) → acheckElifs ok known es = some fa → ∃ fc, checkElifs sc asg es = some fc ∧ fc.ge fa
  | [] => fun known asg fa hk h => by
    cases h
    exact ⟨none, rfl, trivial⟩
  | (_, cr, body) :: r => fun known asg fa hk h => by
    simp only [acheckElifs, Option.ite_none_right_eq_some] at h
    obtain ⟨hr, h⟩ := h
    split at h
    · next a b ha hb =>
      cases h
      obtain ⟨ca, hca, gea⟩ := acheckList_sound sc ok ho body known asg a hk ha
      obtain ⟨cb, hcb, geb⟩ := acheckElifs_sound sc ok ho r known asg b hk hb
      exact ⟨ca.meet cb, by simp [checkElifs, readsOk_of_ard sc ok known asg cr ho hk hr, hca, hcb], meet_ge _ _ _ _ gea geb⟩
    · cases h
theorem acheckElse_sound (sc : Scope) (ok : List S) (ho : OkOuter sc ok) : ∀ (els : Option (List Stmt)) (known asg : List S) (fa : Flow),
    (∀ n ∈ known, n ∈ asg) → acheckElse ok known els = some fa → ∃ fc, checkElse sc asg els = some fc ∧ fc.ge fa
  | none => fun known asg fa hk h => by
    cases h
    exact ⟨some asg, rfl, hk⟩
  | some e => fun known asg fa hk h => acheckList_sound sc ok ho e known asg fa hk h
end

/-! ### the abstract checker does not look at the text -/

def Part.erase (q : Part) : Part := { q with text := [] }

mutual
def Stmt.erase : Stmt → Stmt
  | .line parts => .line (parts.map Part.erase)
  | .comment _ => .comment []
  | .exit _ rs => .exit [] rs
  | .if_ _ cr thn elifs els => .if_ [] cr (eraseList thn) (eraseElifs elifs) (eraseElse els)
  | .for_ tg _ ir body => .for_ tg [] ir (eraseList body)
  | .try_ body _ er asName handler => .try_ (eraseList body) [] er asName (eraseList handler)
def eraseList : List Stmt → List Stmt
  | [] => []
  | s :: r => s.erase :: eraseList r
def eraseElifs : List (S × List S × List Stmt) → List (S × List S × List Stmt)
  | [] => []
  | (_, cr, body) :: r => ([], cr, eraseList body) :: eraseElifs r
def eraseElse : Option (List Stmt) → Option (List Stmt)
  | none => none
  | some e => some (eraseList e)
end

theorem acheckParts_erase (ok : List S) : ∀ (ps : List Part) (known : List S),
    acheckParts ok known (ps.map Part.erase) = acheckParts ok known ps
  | [], _ => rfl
  | q :: r, known => by simp only [List.map_cons, acheckParts, Part.erase, acheckParts_erase ok r]

theorem safePrefix_erase (ss : List Stmt) : safePrefixWrites (eraseList ss) = safePrefixWrites ss := by
  cases ss with
  | nil => rfl
  | cons s r =>
    cases s with
    | line parts =>
      -- `Part.erase` keeps `safe` and `writes`
      simp only [eraseList, Stmt.erase, safePrefixWrites, List.takeWhile_map, List.flatMap_map]
      rfl
    | _ => simp [eraseList, Stmt.erase, safePrefixWrites]

mutual
theorem Stmt.acheck_erase (ok : List S) : ∀ (s : Stmt) (known : List S), s.erase.acheck ok known = s.acheck ok known
  | .line parts, known => by simp only [Stmt.erase, Stmt.acheck, acheckParts_erase]
  | .comment _, known => by simp only [Stmt.erase, Stmt.acheck]
  | .exit _ rs, known => by simp only [Stmt.erase, Stmt.acheck]
  | .if_ _ cr thn elifs els, known => by
    simp only [Stmt.erase, Stmt.acheck, acheckList_erase ok thn known, acheckElifs_erase ok elifs known, acheckElse_erase ok els known]
  | .for_ tg _ ir body, known => by
    simp only [Stmt.erase, Stmt.acheck, acheckList_erase ok body (tg :: known)]
  | .try_ body _ er asName handler, known => by
    simp only [Stmt.erase, Stmt.acheck, acheckList_erase ok body known, safePrefix_erase, acheckList_erase ok handler _]
theorem acheckList_erase (ok : List S) : ∀ (ss : List Stmt) (known : List S), acheckList ok known (eraseList ss) = acheckList ok known ss
  | [], _ => rfl
  | s :: r, known => by
    simp only [eraseList, acheckList, Stmt.acheck_erase ok s known]
    rcases s.acheck ok known with _ | _ | a
    · rfl
    · rfl
    · exact acheckList_erase ok r a
theorem acheckElifs_erase (ok : List S) : ∀ (es : List (S × List S × List Stmt)) (known : List S),
    acheckElifs ok known (eraseElifs es) = acheckElifs ok known es
  | [], _ => rfl
  | (_, cr, body) :: r, known => by
    simp only [eraseElifs, acheckElifs, acheckList_erase ok body known, acheckElifs_erase ok r known]
theorem acheckElse_erase (ok : List S) : ∀ (els : Option (List Stmt)) (known : List S),
    acheckElse ok known (eraseElse els) = acheckElse ok known els
  | none, _ => rfl
  | some e, known => by simp only [eraseElse, acheckElse, acheckList_erase ok e known]
end

theorem checkList_append (sc : Scope) : ∀ (a b : List Stmt) (asg : List S),
    checkList sc asg (a ++ b) = (match checkList sc asg a with
      | none => none
      | some none => some none
      | some (some x) => checkList sc x b)
  | [], b, asg => by simp [checkList]
  | s :: r, b, asg => by
    simp only [List.cons_append, checkList]
    rcases s.check sc asg with _ | _ | x
    · rfl
    · rfl
    · exact checkList_append sc r b x

theorem writesList_append : ∀ (a b : List Stmt), writesList (a ++ b) = writesList a ++ writesList b
  | [], b => by simp [writesList]
  | s :: r, b => by simp [writesList, writesList_append r b, List.append_assoc]

/-- from any state in which the names `K` are assigned, `ss` passes the checker, with a control flow at least as good as `fa` -/
def Step (sc : Scope) (K : List S) (fa : Flow) (ss : List Stmt) : Prop :=
  ∀ x, (∀ n ∈ K, n ∈ x) → ∃ fc, checkList sc x ss = some fc ∧ fc.ge fa

theorem Step.isSome {sc : Scope} {K : List S} {ss : List Stmt} {fa : Flow} (h : Step sc K fa ss) :
    (checkList sc K ss).isSome = true := by
  obtain ⟨fc, h, _⟩ := h K fun _ hn => hn
  rw [h]; rfl

theorem Step.append {sc : Scope} {K K' : List S} {a b : List Stmt} {fb : Flow} (ha : Step sc K (some K') a)
    (hb : Step sc K' fb b) : Step sc K fb (a ++ b) := by
  intro x hx
  obtain ⟨fc, hc, hge⟩ := ha x hx
  rw [checkList_append, hc]
  cases fc with
  | none => exact ⟨none, rfl, by cases fb <;> trivial⟩
  | some y => exact hb y hge

theorem Step.mono {sc : Scope} {K K' : List S} {ss : List Stmt} {fa : Flow} (h : Step sc K fa ss) (hK : ∀ n ∈ K, n ∈ K') :
    Step sc K' fa ss :=
  fun x hx => h x fun n hn => hx n (hK n hn)

theorem Step.of_acheck {sc : Scope} {ok K : List S} {ss : List Stmt} {fa : Flow} (ho : OkOuter sc ok)
    (h : acheckList ok K ss = some fa) : Step sc K fa ss :=
  fun x hx => acheckList_sound sc ok ho ss K x fa hx h

theorem OkOuter.mono {sc : Scope} {a b : List S} (h : OkOuter sc b) (hab : ∀ n ∈ a, n ∈ b) : OkOuter sc a :=
  ⟨fun n hn => h.h n (hab n hn)⟩

/-- a class with the given switches; the fixed parts of the template look at nothing else -/
def sw (pre ru loop kk noPaths : Bool) (ca : Option Bool) : LIn :=
  { preFromDict := pre, catchAll := ca.map (([] : S), ·), raiseOnUnknown := ru, paths := if noPaths then [] else [default],
    loopOverO := loop, knownKeys := kk }

/-- the names the body can bind -/
def fixedW : List S := [t "o", t "init_kwargs", t "catch_all", t "field", t "json_key", t "py_field", t "e"]

theorem writes_paths (p : Char → Bool) : ∀ ls : List PathLine, (writesList (ls.map (pathStmt p))).all fixedW.contains = true
  | [] => rfl
  | l :: r => by
    have hw : (pathStmt p l).writes = [t "field"] := rfl
    have hf : fixedW.contains (t "field") = true := by simp [fixedW]
    simp only [List.map_cons, writesList, List.all_append, hw, List.all_cons, List.all_nil, hf, writes_paths p r, Bool.and_self]

/-- the statements behind the path block without the key loop: the catch-all entry and the constructor call -/
def finishStmts (p : Char → Bool) (g : LIn) : List Stmt := tailStmts p { g with loopOverO := false }

theorem tailStmts_eq (p : Char → Bool) (g : LIn) :
    tailStmts p g = (if g.loopOverO then [loopBlock g] else []) ++ finishStmts p g := by
  simp [tailStmts, finishStmts]

/-- the outside names the statements behind the path block may read: they need neither `safe_get` nor `__pre_from_dict__`, so what
is evaluated about them does not vary with `preFromDict` -/
def okCore (g : LIn) : List S :=
  [t "cls", t "py_case", t "field_to_parser", t "json_to_field", t "ExplicitNull"]
  ++ (if g.loopOverO && !g.raiseOnUnknown then [t "unknown_keys"] else [])
  ++ (if g.loopOverO && g.catchAll.isSome && g.knownKeys then [t "known_keys"] else [])
  ++ genGlobals g ++ builtinsRead

/-- all fixed outer names of the template apart from the per-field `_default_<f>` -/
def okFixed (g : LIn) : List S :=
  (if g.paths.isEmpty then [] else [t "safe_get"]) ++ ((if g.preFromDict then [t "__pre_from_dict__"] else []) ++ okCore g)

/-- what the head leaves assigned -/
def headKnown (g : LIn) : List S :=
  (match g.catchAll with | some _ => [t "catch_all"] | none => []) ++ [t "init_kwargs"] ++ (if g.preFromDict then [t "o"] else []) ++ [t "o"]

/-- `headKnown` is the list the abstract checker returns for the head, with `o` twice under `preFromDict`; these are its names once
each, so that what is checked from them does not vary with `preFromDict` -/
def bodyKnown (g : LIn) : List S := (match g.catchAll with | some _ => [t "catch_all"] | none => []) ++ [t "init_kwargs"] ++ [t "o"]

theorem bodyKnown_sub (g : LIn) : ∀ n ∈ bodyKnown g, n ∈ headKnown g := fun _ hn =>
  List.mem_append.2 ((List.mem_append.1 hn).imp_left (List.mem_append_left _))

/-- the names every line of the path block, or its handler, reads besides `field`, `e` and a `_default_<f>` -/
def pathReads : List S :=
  [t "field_to_parser", t "safe_get", t "o", t "init_kwargs", t "ParseError", t "cls", t "cls_fields"]

/-- the head binds only names of `fixedW`; no name of `okFixed` is one of those (so none is a local: `okFixed_outer`); the abstract
check of the head from `[o]` leaves `headKnown`; and from there, when there are paths, every name of `pathReads` is readable -/
abbrev HeadOk (g : LIn) : Prop :=
  (writesList (headStmts g)).all fixedW.contains = true ∧
  (okFixed g).all (fun n => !fixedW.contains n) = true ∧
  acheckList (okFixed g) [t "o"] (headStmts g) = some (some (headKnown g)) ∧
  (g.paths.isEmpty = false → ard (headKnown g) (okFixed g) pathReads = true)

/-- the finish is taken text-free: its text holds the name of the catch-all field -/
abbrev BodyOk (p : Char → Bool) (g : LIn) : Prop :=
  (g.loopOverO = true → (writesList [loopBlock g]).all fixedW.contains = true ∧
    acheckList (okCore g) (bodyKnown g) [loopBlock g] = some (some (bodyKnown g))) ∧
  acheckList (okCore g) (bodyKnown g) (eraseList (finishStmts p g)) = some none

/-- **the fixed parts of the template**, for every setting of the switches, by one kernel evaluation; each fact is swept over the
switches it depends on -/
theorem fixed_ok (p : Char → Bool) (g : LIn) : HeadOk g ∧ BodyOk p g := by
  have key : (∀ pre ru loop kk noPaths : Bool, ∀ ca ∈ [none, some false, some true], HeadOk (sw pre ru loop kk noPaths ca)) ∧
      ∀ ru loop kk noPaths : Bool, ∀ ca ∈ [none, some false, some true], BodyOk (fun _ => true) (sw false ru loop kk noPaths ca) := by
    decide +kernel
  obtain ⟨pre, ca, ru, paths, loop, kk⟩ := g
  have inst := fun np c h => And.intro (key.1 pre ru loop kk np c h) (key.2 ru loop kk np c h)
  -- each case holds by unfolding: `eraseList` drops the text that holds `p` and the catch-all name `f`, `HeadOk` / `BodyOk` look at
  -- `paths` through `isEmpty` only, and `BodyOk` does not mention `preFromDict`
  cases paths <;> rcases ca with _ | ⟨f, _ | _⟩
  · exact inst true none (by decide)
  · exact inst true (some false) (by decide)
  · exact inst true (some true) (by decide)
  · exact inst false none (by decide)
  · exact inst false (some false) (by decide)
  · exact inst false (some true) (by decide)

theorem okFixed_sub (p : Char → Bool) (g : LIn) : ∀ n ∈ okFixed g, n ∈ (genScope p g).outer := by
  intro n hn
  simp only [okFixed, okCore, genScope, genLocals, List.mem_append, or_assoc] at hn ⊢
  rcases hn with h | h | h | h | h | h | h <;> simp only [h, true_or, or_true]

theorem writes_fixed (p : Char → Bool) (g : LIn) : (writesList (genBody p g)).all (fun n => fixedW.contains n) = true := by
  obtain ⟨⟨hhead, -⟩, hloop, -⟩ := fixed_ok p g
  have he : fixedW.contains (t "e") = true := by simp [fixedW]
  have hfin : writesList (finishStmts p g) = [t "e"] := by
    obtain ⟨pre, ca, ru, paths, loop, kk⟩ := g
    rcases ca with _ | ⟨f, _ | _⟩ <;> rfl
  have hpath : (writesList (pathBlock p g)).all fixedW.contains = true := by
    unfold pathBlock
    cases g.paths.isEmpty
    · simp only [Bool.false_eq_true, if_false, writesList, Stmt.writes, asNames, List.flatMap_cons, List.flatMap_nil, List.append_nil,
        List.all_append, writes_paths, List.all_cons, List.all_nil, he, Bool.and_self]
    · rfl
  have hl : (writesList (if g.loopOverO then [loopBlock g] else [])).all fixedW.contains = true := by
    cases hl : g.loopOverO
    · rfl
    · exact (hloop hl).1
  simp only [genBody, tailStmts_eq, writesList_append, List.all_append, hhead, hpath, hl, hfin, List.all_cons, List.all_nil, he,
    Bool.and_self]

theorem not_local (p : Char → Bool) (g : LIn) {n : S} (h : fixedW.contains n = false) : (genScope p g).locals.contains n = false := by
  have hw := List.all_eq_true.1 (writes_fixed p g)
  refine Bool.eq_false_iff.2 fun hc => ?_
  rcases List.mem_cons.1 (List.contains_iff_mem.1 hc) with rfl | hm
  · exact absurd h (by decide)
  · rw [hw n hm] at h; cases h

theorem okFixed_outer (p : Char → Bool) (g : LIn) : OkOuter (genScope p g) (okFixed g) :=
  ⟨fun n hn => ⟨not_local p g (by simpa using List.all_eq_true.1 (fixed_ok p g).1.2.1 n hn), by simpa using okFixed_sub p g n hn⟩⟩

/-! `Flow.meet` on the flows the template's `if`s produce, as `simp` rules: an `if` whose branches bind nothing checks to exactly the
state it started from (GenEnv's `head_ok`, `field_ok`, `block_ok` compute with them) -/

@[simp] theorem Flow.none_meet (b : Flow) : Flow.meet none b = b := rfl

@[simp] theorem Flow.meet_none (a : Flow) : Flow.meet a none = a := by cases a <;> rfl

@[simp] theorem Flow.meet_self (a : List S) : Flow.meet (some a) (some a) = some a := by
  simp [Flow.meet, List.filter_eq_self]

theorem readOk_mono {sc : Scope} {a b : List S} (hab : ∀ n ∈ a, n ∈ b) {n : S} (h : sc.readOk a n = true) :
    sc.readOk b n = true := by
  simp only [Scope.readOk, Bool.or_eq_true, List.contains_eq_mem, decide_eq_true_eq] at h ⊢
  exact h.imp_left (hab n)

def PathsReadable (sc : Scope) (g : LIn) (asg : List S) : Prop :=
  ∀ n, (n ∈ pathReads ∨ ∃ l ∈ g.paths, l.dflt ≠ .none ∧ n = defaultVar l.field) → sc.readOk asg n = true

theorem paths_lines_ok (p : Char → Bool) (sc : Scope) (g : LIn) :
    ∀ (ls : List PathLine) (a : List S), (∀ l ∈ ls, l ∈ g.paths) → PathsReadable sc g a →
      ∃ a', checkList sc a (ls.map (pathStmt p)) = some (some a') ∧ ∀ n ∈ a, n ∈ a'
  | [] => fun a _ _ => ⟨a, rfl, fun _ h => h⟩
  | l :: r => fun a hl hr => by
    have rd : PathsReadable sc g (t "field" :: a) := fun n hn => readOk_mono (fun m hm => List.mem_cons_of_mem _ hm) (hr n hn)
    have hf : sc.readOk (t "field" :: a) (t "field") = true := readOk_of_mem List.mem_cons_self
    have hstep : (pathStmt p l).check sc a = some (some (t "field" :: a)) := by
      have hd := fun h => rd (defaultVar l.field) (.inr ⟨l, hl l List.mem_cons_self, h, rfl⟩)
      have h7 := fun n hn => rd n (.inl hn)
      simp only [pathReads, List.forall_mem_cons] at h7
      cases hdk : l.dflt <;> simp [hdk] at hd <;>
        simp [pathStmt, Stmt.check, checkParts, Scope.readsOk, hdk, h7, hf, hd]
    obtain ⟨a', h', hsub⟩ := paths_lines_ok p sc g r (t "field" :: a) (fun l' h => hl l' (List.mem_cons_of_mem _ h)) rd
    exact ⟨a', by simp only [List.map_cons, checkList, hstep, h'], fun n hn => hsub n (List.mem_cons_of_mem _ hn)⟩

/-- when the handler runs, `field` is bound by the literal assignment at the head of the `try` body -/
theorem pathBlock_step (p : Char → Bool) (sc : Scope) (g : LIn) (K : List S) (hr : g.paths ≠ [] → PathsReadable sc g K) :
    Step sc K (some K) (pathBlock p g) := by
  intro asg hK
  unfold pathBlock
  cases hp : g.paths with
  | nil => exact ⟨some asg, rfl, hK⟩
  | cons l r =>
    have hr : PathsReadable sc g asg := fun n hn => readOk_mono hK (hr (by simp [hp]) n hn)
    obtain ⟨a, hbody, hsub⟩ := paths_lines_ok p sc g (l :: r) asg (fun _ h => hp ▸ h) hr
    have hH : safePrefixWrites ((l :: r).map (pathStmt p)) ++ asNames (some (t "e")) ++ asg = t "field" :: t "e" :: asg := rfl
    have hf : sc.readOk (t "field" :: t "e" :: asg) (t "field") = true := readOk_of_mem (.head _)
    have he : sc.readOk (t "field" :: t "e" :: asg) (t "e") = true := readOk_of_mem (.tail _ (.head _))
    have h7 := fun n hn => hr n (.inl hn)
    have h7' := fun n hn => readOk_mono (sc := sc) (b := t "field" :: t "e" :: asg) (fun m hm => .tail _ (.tail _ hm)) (h7 n hn)
    simp only [pathReads, List.forall_mem_cons] at h7 h7'
    refine ⟨some a, ?_, fun n hn => hsub n (hK n hn)⟩
    simp only [List.isEmpty_cons, Bool.false_eq_true, if_false, checkList, Stmt.check, checkParts, Scope.readsOk, List.all_cons,
      List.all_nil, hbody, hH, h7, h7', hf, he, Bool.and_self, if_true, Option.map, Flow.meet]

theorem defaultVar_not_local (f : S) : fixedW.contains (defaultVar f) = false := by
  unfold defaultVar fixedW t
  repeat rw [String.toList_ofList]  -- `Names.map_ofList_eq`
  rfl  -- no name of `fixedW` starts with `_`

theorem readOk_defaultVar (p : Char → Bool) (g : LIn) (asg : List S) {l : PathLine} (hl : l ∈ g.paths) (hd : l.dflt ≠ .none) :
    (genScope p g).readOk asg (defaultVar l.field) = true := by
  have hout : defaultVar l.field ∈ (genScope p g).outer :=
    List.mem_append_left _ (List.mem_append_left _ (by
      simp only [genLocals, List.mem_append, List.mem_filterMap]
      exact .inl (.inl (.inr ⟨l, hl, by cases hk : l.dflt <;> simp_all⟩))))
  have hnl : defaultVar l.field ∉ (genScope p g).locals := by simpa using not_local p g (defaultVar_not_local l.field)
  simp [Scope.readOk, hnl, hout]

theorem wellScoped_all (p : Char → Bool) (g : LIn) : wellScoped p g = true := by
  have ho := okFixed_outer p g
  have hc : OkOuter (genScope p g) (okCore g) :=
    ho.mono fun n hn => List.mem_append_right _ (List.mem_append_right _ hn)
  obtain ⟨⟨-, -, hhead, hpath⟩, hloop, hfin⟩ := fixed_ok p g
  rw [acheckList_erase] at hfin
  have tail : Step (genScope p g) (bodyKnown g) none (tailStmts p g) := by
    rw [tailStmts_eq]
    cases hl : g.loopOverO
    · exact .of_acheck hc hfin
    · exact .append (.of_acheck hc (hloop hl).2) (.of_acheck hc hfin)
  refine ((Step.of_acheck ho hhead).append ((pathBlock_step p _ g _ fun hne n hn => ?_).append (tail.mono (bodyKnown_sub g)))).isSome
  rcases hn with hn | ⟨l, hl, hd, hn⟩
  · exact List.all_eq_true.1 (readsOk_of_ard _ _ _ _ _ ho (fun _ h => h) (hpath (by simpa using hne))) n hn
  · exact hn ▸ readOk_defaultVar p g _ hl hd

end DW.GenLoad
