/- Lemmas about the load-side key cache: cached lookups agree with the slow path under the cache invariant.  `quirk` is the
model's switch for a strict function that also caches unknown keys; every lemma holds for either value, so the theorems cover both
caching disciplines (`runCallsP`, calls under several policies, exists for the current discipline only). -/
import DW.Model.KeyCache
namespace DW.KeyCache
open DW

def isUnknown : KeyRes → Bool
  | .unknown => true
  | _ => false

/-- every cached entry is what the slow path computes for that key -/
def Inv (eff : MetaCfg) (ci : ClassInfo) (c : Cache) : Prop :=
  ∀ e ∈ c, resolveKey eff ci e.1 = .ok e.2

theorem get?_spec (eff : MetaCfg) (ci : ClassInfo) (c : Cache) (hc : Inv eff ci c) (k : S) (r : KeyRes)
    (h : c.get? k = some r) : resolveKey eff ci k = .ok r := by
  obtain ⟨e, hf, rfl⟩ := Option.map_eq_some_iff.mp h
  have hk : e.1 = k := by simpa using List.find?_some hf
  exact hk ▸ hc e (List.mem_of_find?_eq_some hf)

theorem Inv_cons (eff : MetaCfg) (ci : ClassInfo) (c : Cache) (hc : Inv eff ci c) (k : S) (r : KeyRes)
    (hres : resolveKey eff ci k = .ok r) : Inv eff ci ((k, r) :: c) :=
  List.forall_mem_cons.2 ⟨hres, hc⟩

theorem lookup_spec (quirk : Bool) (eff : MetaCfg) (ci : ClassInfo) (c : Cache) (hc : Inv eff ci c) (k : S) :
    (lookupKey quirk eff ci c k).1 = resolveKey eff ci k ∧ Inv eff ci (lookupKey quirk eff ci c k).2 := by
  unfold lookupKey
  cases hg : c.get? k with
  | some r => exact ⟨(get?_spec eff ci c hc k r hg).symm, hc⟩
  | none =>
    dsimp only
    cases hres : resolveKey eff ci k with
    | error e => exact ⟨rfl, hc⟩
    | ok r =>
      cases r with
      | unknown =>
        dsimp only
        split
        · exact ⟨rfl, hc⟩
        · exact ⟨rfl, Inv_cons eff ci c hc k _ hres⟩
      | _ => exact ⟨rfl, Inv_cons eff ci c hc k _ hres⟩

theorem keys_cached_eq (quirk : Bool) (FL : S → JVal → LRes) (eff : MetaCfg) (ci : ClassInfo) (kvs : List (S × JVal))
    (c : Cache) (hc : Inv eff ci c) :
    (loadKeysCached quirk FL eff ci c kvs).1 = loadKeysWith FL eff ci kvs ∧ Inv eff ci (loadKeysCached quirk FL eff ci c kvs).2 := by
  induction kvs generalizing c with
  | nil => exact ⟨rfl, hc⟩
  | cons kv r ih =>
    obtain ⟨k, v⟩ := kv
    obtain ⟨h1, h2⟩ := lookup_spec quirk eff ci c hc k
    rw [loadKeysCached, loadKeysWith, ← h1]
    -- from here both loops branch on the same lookup result, and on the same result for the rest of the document
    generalize lookupKey quirk eff ci c k = l at h2 ⊢
    obtain ⟨res, c1⟩ := l
    obtain ⟨ih1, ih2⟩ := ih c1 h2
    rw [← ih1]
    rcases hrec : loadKeysCached quirk FL eff ci c1 r with ⟨rr, c2⟩
    rw [hrec] at ih2
    cases res with
    | error e => exact ⟨rfl, h2⟩
    | ok kr =>
      cases kr <;> dsimp only [bind, Except.bind]
      · cases (FL _ v).mapError (setAttribution ci.name _) with
        | error e => exact ⟨rfl, h2⟩
        | ok y => rw [hrec]; cases rr <;> exact ⟨rfl, ih2⟩
      · rw [hrec]; exact ⟨rfl, ih2⟩
      · by_cases hr : eff.raiseOnUnknown.getD false = true
        · rw [if_pos hr, if_pos hr]
          exact ⟨rfl, h2⟩
        · rw [if_neg hr, if_neg hr, hrec]
          cases rr with
          | error e => exact ⟨rfl, ih2⟩
          | ok p => dsimp only; split <;> exact ⟨rfl, ih2⟩

theorem call_eq (quirk : Bool) (FL : S → JVal → LRes) (eff : MetaCfg) (ci : ClassInfo) (c : Cache) (hc : Inv eff ci c)
    (kvs : List (S × JVal)) :
    (loadCall quirk FL eff ci c kvs).1 = loadClassWith FL eff ci (.dict kvs) ∧ Inv eff ci (loadCall quirk FL eff ci c kvs).2 := by
  obtain ⟨h1, h2⟩ := keys_cached_eq quirk FL eff ci kvs c hc
  rw [loadCall, loadClassWith, ← h1]
  generalize loadKeysCached quirk FL eff ci c kvs = l at h2 ⊢
  obtain ⟨res, c'⟩ := l
  cases res <;> exact ⟨rfl, h2⟩

theorem Inv_nil (eff : MetaCfg) (ci : ClassInfo) : Inv eff ci [] := fun _ he => nomatch he

theorem history_eq (quirk : Bool) (FL : S → JVal → LRes) (eff : MetaCfg) (ci : ClassInfo) (docs : List (List (S × JVal)))
    (c : Cache) (hc : Inv eff ci c) :
    (runCalls quirk FL eff ci c docs).1 = docs.map (fun d => loadClassWith FL eff ci (.dict d)) := by
  induction docs generalizing c with
  | nil => rfl
  | cons d r ih =>
    obtain ⟨h1, h2⟩ := call_eq quirk FL eff ci c hc d
    simp only [runCalls, List.map_cons]
    rw [← h1, ih _ h2]

theorem world_eq (quirk : Bool) (specs : Nat → ClsSpec) (calls : List (Nat × List (S × JVal))) (w : World)
    (hw : ∀ n, Inv (specs n).eff (specs n).ci (w n)) :
    (runWorld quirk specs w calls).1 =
      calls.map (fun c => loadClassWith (specs c.1).fieldLoader (specs c.1).eff (specs c.1).ci (.dict c.2)) := by
  induction calls generalizing w with
  | nil => rfl
  | cons nd r ih =>
    obtain ⟨n, d⟩ := nd
    obtain ⟨h1, h2⟩ := call_eq quirk (specs n).fieldLoader (specs n).eff (specs n).ci (w n) (hw n) d
    simp only [runWorld, List.map_cons]
    rw [← h1, ih _ fun m => by
      split
      · next hm => exact hm ▸ h2
      · exact hw m]

/-! ### one class, several policies: the functions generated for a class under different unknown-key policies share its cache -/

/-- the two effective Metas resolve every key alike (they differ in settings the key resolution does not read, such as
`raise_on_unknown_json_key`) -/
def SameKeys (ci : ClassInfo) (eff eff' : MetaCfg) : Prop := ∀ k, resolveKey eff ci k = resolveKey eff' ci k

theorem Inv_sameKeys (ci : ClassInfo) (eff eff' : MetaCfg) (h : SameKeys ci eff eff') (c : Cache) (hc : Inv eff ci c) :
    Inv eff' ci c := fun e he => by rw [← h e.1]; exact hc e he

theorem history_policies_eq (FL : S → JVal → LRes) (ci : ClassInfo) (eff0 : MetaCfg)
    (calls : List (MetaCfg × List (S × JVal))) (c : Cache) (hc : Inv eff0 ci c) (hs : ∀ p ∈ calls, SameKeys ci eff0 p.1) :
    (runCallsP FL ci c calls).1 = calls.map (fun p => loadClassWith FL p.1 ci (.dict p.2)) := by
  induction calls generalizing c with
  | nil => rfl
  | cons p r ih =>
    obtain ⟨eff, d⟩ := p
    have hse := hs (eff, d) List.mem_cons_self
    obtain ⟨h1, h2⟩ := call_eq false FL eff ci c (Inv_sameKeys ci eff0 eff hse c hc) d
    have h2' : Inv eff0 ci (loadCall false FL eff ci c d).2 :=
      Inv_sameKeys ci eff eff0 (fun k => (hse k).symm) _ h2
    simp only [runCallsP, List.map_cons]
    rw [← h1, ih _ h2' fun p hp => hs p (List.mem_cons_of_mem _ hp)]

theorem sameKeys_raise (ci : ClassInfo) (eff : MetaCfg) (b : Option Bool) : SameKeys ci eff { eff with raiseOnUnknown := b } :=
  fun _ => rfl

end DW.KeyCache
