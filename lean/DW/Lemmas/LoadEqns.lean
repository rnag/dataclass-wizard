/-
What the loaders `loadV1` and `loadE` are at one annotation, for the annotations `DW/Props/C04.lean` rewrites with.  All hold
by `rfl`.  `rw [loadV1]` and `simp [loadV1]` are slow to check: each call goes through the equation lemmas of the mutual
definition (26 arms for `loadV1` alone) one after the other.  `unfold loadV1` on a goal at a constructor annotation, or using the definitional equality
directly (`exact h`), is not; that is what the other files do.
-/
import DW.Model.LoadV1
import DW.Model.EnvLoad

namespace DW
variable (std : Std) (js : S → Option JVal) (cfg : Option MetaCfg)

theorem loadV1_str (o : JVal) : loadV1 std cfg .str o = v1Str o := rfl

theorem loadV1_int (o : JVal) : loadV1 std cfg .int o = v1Int std o := rfl

theorem loadV1_tuple (ts : List Ty) (o : JVal) :
    loadV1 std cfg (.tuple ts) o =
      if ts.isEmpty then
        match jIter o with
        | some xs => pure (.tuple (xs.map JVal.toPy))
        | none => perr
      else v1Tuple std cfg ts 0 o >>= fun ys => pure (.tuple ys) := rfl

theorem loadV1_typeddict (name : S) (fields : List (S × Ty × Bool)) (kvs : List (S × JVal)) :
    loadV1 std cfg (.typeddict name fields) (.dict kvs) =
      match v1Td std cfg fields kvs with
      | .ok ps => pure (.map .dict ps)
      | .error e => .error e := rfl

theorem loadV1_ntuple_list (name : S) (fields : List (S × Ty × Option Dflt)) (xs : List JVal) :
    loadV1 std cfg (.ntuple name fields) (.list xs) =
      v1NtSeq std cfg name fields 0 xs.length (.list xs) >>= fun ys =>
        pure (.ntuple name (fields.map (·.1)) (ys ++ (fields.drop ys.length).filterMap (fun f => f.2.2.map Dflt.toPy))) := rfl

theorem loadE_seq (k : SeqKind) (t : Ty) (o : JVal) :
    loadE std js cfg (.seq k t) o =
      envAsList js o >>= fun o' =>
        match jIter o' with
        | none => rawE "TypeError"
        | some xs => mapME (fun x => loadE std js cfg t x) xs >>= mkSeq k := rfl

theorem loadE_tuple (ts : List Ty) (o : JVal) :
    loadE std js cfg (.tuple ts) o =
      match jLen o with
      | none => rawE "TypeError"
      | some n =>
          if ts.isEmpty then
            envAsList js o >>= fun o' =>
              match jIter o' with
              | some xs => pure (.tuple (xs.map JVal.toPy))
              | none => rawE "TypeError"
          else if (ts.filter (fun t => !acceptsNone t)).length ≤ n && n ≤ ts.length then
            envAsList js o >>= fun o' =>
              match jIter o' with
              | none => rawE "TypeError"
              | some xs => loadZipE std js cfg ts xs >>= fun ys => pure (.tuple ys)
          else parseE := rfl

theorem loadE_map (mk : MapKind) (kt vt : Ty) (o : JVal) :
    loadE std js cfg (.map mk kt vt) o =
      envAsDict js o >>= fun o' =>
        match o' with
        | .dict kvs =>
            mapME (fun (kv : S × JVal) => do
                let k' ← loadE std js cfg kt (.str kv.1)
                let v' ← loadE std js cfg vt kv.2
                pure (k', v')) kvs >>= mkMap mk
        | _ => rawE "AttributeError" := rfl

end DW
