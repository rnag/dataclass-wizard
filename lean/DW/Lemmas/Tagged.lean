/- Tag dispatch in a Union of dataclasses (C13, the structural round trips): the member a tag selects is a pure function of
the member list, `pick`, and each engine's dispatch loop is `pick` followed by the member's loader (`loadTagged_eq_pick`;
`v1Tagged_eq_pick` in `TaggedV1`). Also what `resolveKey` makes of the tag key and of a field's own name. -/
import DW.Generated.Tables
import DW.Model.Load

namespace DW.Tagged
open DW

def isCls : Ty → Bool
  | .cls _ _ => true
  | _ => false

/-- no non-dataclass member of the Union claims the value `o` (`o in parser` is False for it); used with `o` a dict -/
def NoDictClaim (ts : List Ty) (o : JVal) : Prop :=
  ∀ t ∈ ts, isCls t = true ∨ t = .none ∨ parserContains t o = some false

theorem loadUnionTry_none (std : Std) (cfg : Option MetaCfg) (ts : List Ty) (o : JVal)
    (h : NoDictClaim ts o) : loadUnionTry std cfg ts o = none := by
  induction ts with
  | nil => rfl
  | cons t r ih =>
    obtain ⟨ht, hr⟩ := List.forall_mem_cons.1 h
    have hr := ih hr
    unfold loadUnionTry
    split
    · exact hr
    · exact hr
    · next hc hn =>
      -- neither a dataclass nor `None`: the member's claim test says no
      rcases ht with ht | ht | ht
      · unfold isCls at ht
        split at ht
        · exact (hc _ _ rfl).elim
        · cases ht
      · exact (hn ht).elim
      · rw [ht]; exact hr

theorem resolveKey_tagKey (eff : MetaCfg) (ci : ClassInfo) (t : S) (ht : eff.tag = some t)
    (hnf : eff.tagKey.getD Generated.tagKey.toList ∉ initFieldNames ci)
    (hna : (aliasTable ci).reverse.find? (fun p => p.1 == eff.tagKey.getD Generated.tagKey.toList) = none) :
    resolveKey eff ci (eff.tagKey.getD Generated.tagKey.toList) = .ok .ignored := by
  simp [resolveKey, hna, ht, hnf, pure, Except.pure]

/-- without aliases, a key that is itself the name of a constructor field resolves to that field, before any key transform or
case-insensitive matching is tried -/
theorem resolveKey_fieldName (eff : MetaCfg) (ci : ClassInfo) (key : S) (hal : aliasTable ci = [])
    (hmem : key ∈ initFieldNames ci) : resolveKey eff ci key = .ok (.field key) := by
  simp [resolveKey, hal, hmem, pure, Except.pure]

def tagOf (cfg : Option MetaCfg) : Ty → Option S
  | .cls ci _ => memberTag cfg ci
  | _ => none

/-- the member class the tag dispatch selects for `tg`: the last one that answers to it (`tag_to_parser[tag] = …` overwrites) -/
def pick (cfg : Option MetaCfg) (tg : S) : List Ty → Option (ClassInfo × List (S × Ty))
  | [] => none
  | t :: ts =>
    match t with
    | .cls ci ftys => if memberTag cfg ci == some tg && !(ts.any (tyHasTag cfg tg)) then some (ci, ftys) else pick cfg tg ts
    | _ => pick cfg tg ts

theorem pick_mem (cfg : Option MetaCfg) (tg : S) (ci : ClassInfo) (ftys : List (S × Ty)) (ts : List Ty)
    (h : pick cfg tg ts = some (ci, ftys)) : Ty.cls ci ftys ∈ ts := by
  induction ts with
  | nil => nomatch h
  | cons t ts ih =>
    unfold pick at h
    split at h
    · split at h
      · cases h; exact List.mem_cons_self ..
      · exact List.mem_cons_of_mem _ (ih h)
    · exact List.mem_cons_of_mem _ (ih h)

theorem pick_cons_of_ne (cfg : Option MetaCfg) (tg : S) (t : Ty) (ts : List Ty) (h : tagOf cfg t ≠ some tg) :
    pick cfg tg (t :: ts) = pick cfg tg ts := by
  cases t with
  | cls ci ftys =>
    have ht : memberTag cfg ci ≠ some tg := h
    rw [pick, if_neg (by simp [ht])]
  | _ => rfl

theorem pick_none (cfg : Option MetaCfg) (tg : S) (ts : List Ty) (h : ∀ t ∈ ts, tagOf cfg t ≠ some tg) :
    pick cfg tg ts = none := by
  induction ts with
  | nil => rfl
  | cons t r ih =>
    obtain ⟨ht, hr⟩ := List.forall_mem_cons.1 h
    rw [pick_cons_of_ne cfg tg t r ht, ih hr]

theorem tyHasTag_eq_tagOf (cfg : Option MetaCfg) (tg : S) (t : Ty) : tyHasTag cfg tg t = (tagOf cfg t == some tg) := by
  cases t <;> rfl

theorem pick_unique (cfg : Option MetaCfg) (tg : S) (pre post : List Ty) (ci : ClassInfo) (ftys : List (S × Ty))
    (hk : memberTag cfg ci = some tg)
    (hpre : ∀ t ∈ pre, tagOf cfg t ≠ some tg) (hpost : ∀ t ∈ post, tagOf cfg t ≠ some tg) :
    pick cfg tg (pre ++ .cls ci ftys :: post) = some (ci, ftys) := by
  induction pre with
  | nil =>
    have : post.any (tyHasTag cfg tg) = false :=
      List.any_eq_false.2 fun t' ht' => by rw [tyHasTag_eq_tagOf]; simpa using hpost t' ht'
    simp [pick, hk, this]
  | cons t r ih =>
    obtain ⟨ht, hr⟩ := List.forall_mem_cons.1 hpre
    rw [List.cons_append, pick_cons_of_ne cfg tg t _ ht, ih hr]

theorem loadTagged_eq_pick (std : Std) (cfg : Option MetaCfg) (tg : S) (ts : List Ty) (o : JVal) :
    loadTagged std cfg tg ts o = match pick cfg tg ts with
      | some (ci, ftys) => loadClassWith (fun f v => loadField std cfg f v ftys) (effMeta ci.cmeta cfg) ci o
      | none => parseE := by
  induction ts with
  | nil => rfl
  | cons t r ih =>
    -- unfolded before the case split: each case then reduces a `match`, not the recursion through `loadD`'s mutual block
    unfold loadTagged pick
    rw [ih]
    cases t with
    | cls ci ftys =>
      dsimp only
      split <;> rfl
    | _ => rfl

theorem loadTagged_dispatch (std : Std) (cfg : Option MetaCfg) (tg : S) (pre post : List Ty)
    (ci : ClassInfo) (ftys : List (S × Ty)) (o : JVal)
    (hk : memberTag cfg ci = some tg)
    (hpre : ∀ t ∈ pre, tagOf cfg t ≠ some tg) (hpost : ∀ t ∈ post, tagOf cfg t ≠ some tg) :
    loadTagged std cfg tg (pre ++ .cls ci ftys :: post) o
      = loadClassWith (fun f v => loadField std cfg f v ftys) (effMeta ci.cmeta cfg) ci o := by
  rw [loadTagged_eq_pick, pick_unique cfg tg pre post ci ftys hk hpre hpost]

theorem loadTagged_unassigned (std : Std) (cfg : Option MetaCfg) (tg : S) (ts : List Ty) (o : JVal)
    (h : ∀ t ∈ ts, tagOf cfg t ≠ some tg) : loadTagged std cfg tg ts o = .error (.parse none none) := by
  rw [loadTagged_eq_pick, pick_none cfg tg ts h]; rfl

theorem loadD_union_dict (std : Std) (cfg : Option MetaCfg) (ts : List Ty) (kvs : List (S × JVal))
    (hclaim : NoDictClaim ts (.dict kvs)) :
    loadD std cfg (.union ts) (.dict kvs) =
      match kvs.find? (fun kv => kv.1 == (cfg.bind (·.tagKey)).getD Generated.tagKey.toList) with
      | none => parseE
      | some (_, tagv) =>
        match tagv with
        | .str tg => loadTagged std cfg tg ts (.dict kvs)
        | .list _ => rawE "TypeError"
        | .dict _ => rawE "TypeError"
        | _ => parseE := by
  unfold loadD
  rw [if_neg (by simp [JVal.kind]), loadUnionTry_none std cfg _ _ hclaim]
  rfl

theorem loadD_dispatch_core (std : Std) (cfg : Option MetaCfg) (tg : S) (pre post : List Ty)
    (ci : ClassInfo) (ftys : List (S × Ty)) (kvs : List (S × JVal))
    (hk : memberTag cfg ci = some tg)
    (hpre : ∀ t ∈ pre, tagOf cfg t ≠ some tg) (hpost : ∀ t ∈ post, tagOf cfg t ≠ some tg)
    (hclaim : NoDictClaim (pre ++ .cls ci ftys :: post) (.dict kvs))
    (htag : kvs.find? (fun kv => kv.1 == (cfg.bind (·.tagKey)).getD Generated.tagKey.toList)
              = some ((cfg.bind (·.tagKey)).getD Generated.tagKey.toList, .str tg)) :
    loadD std cfg (.union (pre ++ .cls ci ftys :: post)) (.dict kvs)
      = loadClassWith (fun f v => loadField std cfg f v ftys) (effMeta ci.cmeta cfg) ci (.dict kvs) := by
  rw [loadD_union_dict std cfg _ kvs hclaim, htag]
  exact loadTagged_dispatch std cfg tg pre post ci ftys (.dict kvs) hk hpre hpost

end DW.Tagged
