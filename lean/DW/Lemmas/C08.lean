/- C08, alias lookup (model: DW/Model/Alias.lean): a field reads the document only through `objGet`, so documents with
the same `objGet` give the same path lookups (`pathGet_congr`, `findPath_congr`); `KeysDistinct` holds of every real `dict`. -/
import DW.Model.Alias

namespace DW.C08
open DW.Str DW.ObjPath DW.Alias

theorem findAlias_nil (get : Key → Option Doc) : findAlias get [] = none := rfl

theorem findAlias_cons (get : Key → Option Doc) (a : S) (r : List S) :
    findAlias get (a :: r) = match get (.str a) with
      | some d => some d
      | none => findAlias get r := by
  cases h : get (.str a) <;> simp [findAlias, h]

/-- no two entries of the document have (Python-)equal keys — always true of a real `dict` -/
def KeysDistinct (kvs : List (Key × Doc)) : Prop := kvs.Pairwise (fun a b => a.1.same b.1 = false)

theorem same_symm (a b : Key) : a.same b = b.same a :=
  decide_eq_decide.2 eq_comm

theorem same_of_same_right {a b k : Key} (ha : a.same k = true) (hb : b.same k = true) : a.same b = true := by
  simp only [Key.same, decide_eq_true_eq] at *
  rw [ha, hb]

theorem objGet_cons (x : Key × Doc) (r : List (Key × Doc)) (k : Key) :
    objGet (x :: r) k = if x.1.same k then some x.2 else objGet r k := by
  cases x; rfl

theorem keysDistinct_perm {l l' : List (Key × Doc)} (hp : l.Perm l') : KeysDistinct l ↔ KeysDistinct l' :=
  hp.pairwise_iff fun h => (same_symm _ _).trans h

theorem pathGet_congr {kvs kvs' : List (Key × Doc)} (h : ∀ k, objGet kvs k = objGet kvs' k)
    (p : List Key) (hp : p ≠ []) : pathGet (.obj kvs) p = pathGet (.obj kvs') p := by
  cases p with
  | nil => exact absurd rfl hp
  | cons c r => simp [pathGet, stepGet, h]

theorem findPath_congr {kvs kvs' : List (Key × Doc)} (h : ∀ k, objGet kvs k = objGet kvs' k) (b : Bool)
    (ps : List (List Key)) (hps : ∀ p ∈ ps, p ≠ []) :
    findPath (.obj kvs) b ps = findPath (.obj kvs') b ps := by
  induction ps with
  | nil => rfl
  | cons p r ih =>
    obtain ⟨hp, hr⟩ := List.forall_mem_cons.1 hps
    cases r with
    | nil => simp [findPath, pathGet_congr h p hp]
    | cons q r' => simp [findPath, pathGet_congr h p hp, ih hr]

theorem loadPathsOf_some {f : FieldSpec} {ps : List (List Key)} (h : loadPathsOf f = some ps) : ps = f.paths := by
  unfold loadPathsOf at h
  split at h
  · split at h <;> cases h
    rfl
  · cases h

theorem mapM_option_congr {α β : Type} {f g : α → Option β} {l : List α} (h : ∀ a ∈ l, f a = g a) :
    l.mapM f = l.mapM g := by
  induction l with
  | nil => rfl
  | cons a r ih =>
    simp only [List.mapM_cons]
    rw [h a (by simp), ih (fun b hb => h b (by simp [hb]))]

end DW.C08
