/- The dict algebra of C18: an association-list dict is known through `dget`; membership in `keys` is
translated to `dget` once (`mem_keys_iff`), so the membership facts about `keys` follow from the `dget` facts (the
`Nodup` facts are by induction on the list). -/
import DW.Model.C18

namespace DW.Env
open DW.Str

theorem dget_dset (k v k' : S) (d : Dict) :
    dget k' (dset k v d) = if k = k' then some v else dget k' d := by
  induction d with
  | nil => rfl
  | cons p r ih =>
    by_cases hk : k = k'
    · subst hk; by_cases hp : p.1 = k <;> simp [dset, dget, ih, hp]
    · by_cases hp : p.1 = k <;> simp [dset, dget, ih, hp, hk]

theorem ddel_cons (k : S) (p : S × S) (r : Dict) :
    ddel k (p :: r) = if p.1 = k then ddel k r else p :: ddel k r := by
  by_cases hp : p.1 = k <;> simp [ddel, hp]

theorem dget_ddel (k k' : S) (d : Dict) :
    dget k' (ddel k d) = if k = k' then none else dget k' d := by
  induction d with
  | nil => exact (ite_self none).symm
  | cons p r ih =>
    by_cases hk : k = k'
    · subst hk; by_cases hp : p.1 = k <;> simp [ddel_cons, dget, ih, hp]
    · by_cases hp : p.1 = k <;> simp [ddel_cons, dget, ih, hp, hk]

theorem dgetLast_cons (n : S) (p : S × S) (r : Dict) :
    dgetLast n (p :: r) = (dgetLast n r).or (if p.1 = n then some p.2 else none) := by
  rw [dgetLast]; cases dgetLast n r <;> rfl

theorem layersGet_cons (f : Dict) (r : List Dict) (n : S) :
    layersGet (f :: r) n = (layersGet r n).or (dgetLast n f) := by
  rw [layersGet]; cases layersGet r n <;> rfl

theorem dget_dupdate (n : S) (d ov : Dict) : dget n (dupdate d ov) = (dgetLast n ov).or (dget n d) := by
  induction ov generalizing d with
  | nil => rfl
  | cons p r ih =>
    show dget n (dupdate (dset p.1 p.2 d) r) = _
    rw [ih, dget_dset, dgetLast_cons, Option.or_assoc]
    split <;> rfl

theorem dget_foldl_dupdate (n : S) (fs : List Dict) (d : Dict) :
    dget n (fs.foldl dupdate d) = (layersGet fs n).or (dget n d) := by
  induction fs generalizing d with
  | nil => rfl
  | cons f r ih => rw [List.foldl_cons, ih, dget_dupdate, layersGet_cons, Option.or_assoc]

theorem dget_mergeFiles (n : S) (fs : List Dict) : dget n (mergeFiles fs) = layersGet fs n := by
  rw [mergeFiles, dget_foldl_dupdate]
  exact Option.or_none

theorem keys_cons (p : S × S) (d : Dict) : keys (p :: d) = p.1 :: keys d := rfl

theorem mem_keys_iff (k : S) (d : Dict) : k ∈ keys d ↔ (dget k d).isSome = true := by
  induction d with
  | nil => exact ⟨nofun, nofun⟩
  | cons p r ih =>
    by_cases hp : p.1 = k
    · simp [keys_cons, dget, hp]
    · simp [keys_cons, dget, hp, Ne.symm hp, ih]

theorem dgetLast_isSome_iff_keys (k : S) (d : Dict) : (dgetLast k d).isSome = true ↔ k ∈ keys d := by
  induction d with
  | nil => exact ⟨nofun, nofun⟩
  | cons p r ih =>
    by_cases hp : p.1 = k
    · simp [keys_cons, dgetLast_cons, hp]
    · simp [keys_cons, dgetLast_cons, hp, Ne.symm hp, ih]

theorem dget_some_mem {k v : S} {d : Dict} (h : dget k d = some v) : (k, v) ∈ d := by
  induction d with
  | nil => cases h
  | cons p r ih =>
    rw [dget] at h
    split at h
    · next hp =>
      cases Option.some.inj h
      cases hp
      exact List.mem_cons_self
    · exact List.mem_cons_of_mem _ (ih h)

theorem dget_isSome_of_mem {k v : S} {d : Dict} (h : (k, v) ∈ d) : (dget k d).isSome = true :=
  (mem_keys_iff k d).mp (List.mem_map.mpr ⟨(k, v), h, rfl⟩)

theorem mem_dset {x : S × S} {k v : S} {d : Dict} (h : x ∈ dset k v d) : x = (k, v) ∨ x ∈ d := by
  induction d with
  | nil => exact Or.inl (List.mem_singleton.mp h)
  | cons p r ih =>
    rw [dset] at h
    split at h
    · exact (List.mem_cons.mp h).imp_right (List.mem_cons_of_mem _)
    · rcases List.mem_cons.mp h with h | h
      · exact Or.inr (h ▸ List.mem_cons_self)
      · exact (ih h).imp_right (List.mem_cons_of_mem _)

theorem mem_keys_dset {n k v : S} {d : Dict} (h : n ∈ keys (dset k v d)) : n = k ∨ n ∈ keys d := by
  rw [mem_keys_iff, dget_dset] at h
  split at h
  · next e => exact Or.inl e.symm
  · exact Or.inr ((mem_keys_iff n d).mpr h)

theorem mem_keys_ddel {n k : S} {d : Dict} (h : n ∈ keys (ddel k d)) : n ∈ keys d := by
  rw [mem_keys_iff, dget_ddel] at h
  split at h
  · cases h
  · exact (mem_keys_iff n d).mpr h

theorem nodup_keys_dset (k v : S) (d : Dict) (h : (keys d).Nodup) : (keys (dset k v d)).Nodup := by
  induction d with
  | nil => exact List.nodup_cons.mpr ⟨List.not_mem_nil, List.nodup_nil⟩
  | cons p r ih =>
    rw [keys_cons, List.nodup_cons] at h
    rw [dset]
    split
    · next hp => exact List.nodup_cons.mpr ⟨hp ▸ h.1, h.2⟩
    · next hp => exact List.nodup_cons.mpr ⟨fun hm => (mem_keys_dset hm).elim hp h.1, ih h.2⟩

theorem nodup_keys_dupdate (d ov : Dict) (h : (keys d).Nodup) : (keys (dupdate d ov)).Nodup :=
  List.foldlRecOn ov _ (motive := fun d => (keys d).Nodup) h (fun b hb p _ => nodup_keys_dset p.1 p.2 b hb)

theorem nodup_keys_mergeFiles (fs : List Dict) : (keys (mergeFiles fs)).Nodup :=
  List.foldlRecOn fs dupdate (motive := fun d => (keys d).Nodup) List.nodup_nil
    (fun b hb f _ => nodup_keys_dupdate b f hb)

theorem dgetLast_eq_dget_of_nodup (n : S) (d : Dict) (h : (keys d).Nodup) : dgetLast n d = dget n d := by
  induction d with
  | nil => rfl
  | cons p r ih =>
    rw [keys_cons, List.nodup_cons, mem_keys_iff, Option.not_isSome_iff_eq_none] at h
    rw [dgetLast_cons, ih h.2, dget]
    by_cases e : p.1 = n
    · subst e; rw [h.1]; rfl
    · rw [if_neg e, if_neg e]; exact Option.or_none

/-- `mergeFiles` builds its result by `dset`, so no key occurs twice in it and the last binding of a key is its first -/
theorem dgetLast_mergeFiles (n : S) (fs : List Dict) : dgetLast n (mergeFiles fs) = layersGet fs n := by
  rw [dgetLast_eq_dget_of_nodup _ _ (nodup_keys_mergeFiles fs), dget_mergeFiles]

theorem layersGet_isSome {fs : List Dict} {n : S} (h : (layersGet fs n).isSome = true) : n ∈ fs.flatMap keys := by
  induction fs with
  | nil => cases h
  | cons f r ih =>
    rw [layersGet_cons, Option.isSome_or, Bool.or_eq_true] at h
    rw [List.flatMap_cons, List.mem_append]
    exact h.symm.imp (dgetLast_isSome_iff_keys n f).mp ih

theorem layersGet_append_singleton (fs : List Dict) (f : Dict) (n : S) :
    layersGet (fs ++ [f]) n = (dgetLast n f).or (layersGet fs n) := by
  induction fs with
  | nil => exact Option.or_none.symm
  | cons g r ih => rw [List.cons_append, layersGet_cons, ih, layersGet_cons, Option.or_assoc]

theorem refLookup_eq (os : Dict) (secs dots : List Dict) (n : S) :
    refLookup os secs dots n = (layersGet dots n).or ((layersGet secs n).or (dget n os)) := by
  unfold refLookup
  cases layersGet dots n <;> cases layersGet secs n <;> rfl

theorem mem_iterOrder (rank xs : List S) (x : S) : x ∈ iterOrder rank xs ↔ x ∈ xs := by
  by_cases hr : x ∈ rank <;> simp [iterOrder, hr]

theorem mem_patch {p : S × S} {rank : List S} {cl : Dict} {vars : List S} (h : p ∈ patch rank cl vars) :
    p ∈ cl ∨ ∃ v ∈ vars, p = (clean v, v) :=
  List.foldlRecOn (iterOrder rank vars) _ (motive := fun d => p ∈ d → p ∈ cl ∨ ∃ v ∈ vars, p = (clean v, v))
    Or.inl (fun _ hd a ha hp => (mem_dset hp).elim (fun e => Or.inr ⟨a, (mem_iterOrder _ _ _).mp ha, e⟩) hd) h

theorem dget_foldl_dset_isSome {k : S} {cl : Dict} (l : List S) (h : (dget k cl).isSome = true) :
    (dget k (l.foldl (fun d v => dset (clean v) v d) cl)).isSome = true :=
  List.foldlRecOn l _ (motive := fun d => (dget k d).isSome = true) h (fun d hd a _ => by
    rw [dget_dset]
    split
    · rfl
    · exact hd)

theorem patch_mono {k : S} {rank : List S} {cl : Dict} {vars : List S} (h : (dget k cl).isSome = true) :
    (dget k (patch rank cl vars)).isSome = true :=
  dget_foldl_dset_isSome _ h

theorem patch_complete {v : S} {rank : List S} {cl : Dict} {vars : List S} (h : v ∈ vars) :
    (dget (clean v) (patch rank cl vars)).isSome = true := by
  obtain ⟨s, t, e⟩ := List.append_of_mem ((mem_iterOrder rank vars v).mpr h)
  rw [patch, e, List.foldl_append, List.foldl_cons]
  apply dget_foldl_dset_isSome
  rw [dget_dset, if_pos rfl]
  rfl

theorem mem_buildCleaned {p : S × S} {rank vn : List S} (h : p ∈ buildCleaned rank vn) : ∃ v ∈ vn, p = (clean v, v) :=
  (mem_patch h).resolve_left List.not_mem_nil

end DW.Env
