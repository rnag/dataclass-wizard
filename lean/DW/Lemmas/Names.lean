/- Lemmas about DW.Names: hex digits, `repr` read back by the string-literal reader, decimal numerals, the shape of field variables. -/
import DW.Model.Names
namespace DW.Names

theorem hexVal_hexDigit : ∀ n : Fin 16, hexVal (hexDigit n) = some n.val := by decide

theorem ofHex_append (acc : Nat) (xs ys : S) :
    ofHex acc (xs ++ ys) = (ofHex acc xs).bind (fun a => ofHex a ys) := by
  induction xs generalizing acc with
  | nil => simp [ofHex]
  | cons c r ih =>
    simp only [List.cons_append, ofHex]
    cases hexVal c with
    | none => simp
    | some d => simp [ih]

theorem ofHex_toHex (k : Nat) : ∀ (n acc : Nat), n < 16 ^ k → ofHex acc (toHex k n) = some (acc * 16 ^ k + n) := by
  induction k with
  | zero => intro n acc h; simp at h; simp [toHex, ofHex, h]
  | succ k ih =>
    intro n acc h
    have h1 : n / 16 < 16 ^ k := (Nat.div_lt_iff_lt_mul (by decide)).2 h
    have hd : hexVal (hexDigit (n % 16)) = some (n % 16) := hexVal_hexDigit ⟨n % 16, Nat.mod_lt _ (by omega)⟩
    rw [toHex, ofHex_append, ih _ _ h1]
    simp only [Option.bind_some, ofHex, hd]
    rw [Nat.pow_succ, Nat.add_mul, Nat.mul_assoc, Nat.add_assoc, Nat.mul_comm (n / 16), Nat.div_add_mod]

theorem unq_x (q a b : Char) (r : S) : unq q ('\\' :: 'x' :: a :: b :: r) = hexCons (ofHex 0 [a, b]) (unq q r) := by
  rw [unq]
theorem unq_u (q a b c d : Char) (r : S) : unq q ('\\' :: 'u' :: a :: b :: c :: d :: r) = hexCons (ofHex 0 [a, b, c, d]) (unq q r) := by
  rw [unq]
theorem unq_U (q a b c d e f g h : Char) (r : S) : unq q ('\\' :: 'U' :: a :: b :: c :: d :: e :: f :: g :: h :: r) =
    hexCons (ofHex 0 [a, b, c, d, e, f, g, h]) (unq q r) := by
  rw [unq]
theorem unq_bs (q x : Char) (r : S) (h1 : x ≠ 'x') (h2 : x ≠ 'u') (h3 : x ≠ 'U') :
    unq q ('\\' :: x :: r) = chCons (simpleEsc x) (unq q r) := by
  rw [unq]
  all_goals (intros; simp_all)
theorem unq_plain (q c : Char) (r : S) (h : c ≠ '\\') :
    unq q (c :: r) = if c = q then (if r = [] then some [] else none) else if c = '\n' then none else chCons (some c) (unq q r) := by
  rw [unq]
  all_goals (intros; simp_all)

theorem toHex2 (n : Nat) : toHex 2 n = [hexDigit (n / 16 % 16), hexDigit (n % 16)] := by
  simp [toHex]
theorem toHex4 (n : Nat) : toHex 4 n = [hexDigit (n / 16 / 16 / 16 % 16), hexDigit (n / 16 / 16 % 16), hexDigit (n / 16 % 16), hexDigit (n % 16)] := by
  simp [toHex]
theorem toHex8 (n : Nat) : toHex 8 n = [hexDigit (n / 16 / 16 / 16 / 16 / 16 / 16 / 16 % 16), hexDigit (n / 16 / 16 / 16 / 16 / 16 / 16 % 16),
    hexDigit (n / 16 / 16 / 16 / 16 / 16 % 16), hexDigit (n / 16 / 16 / 16 / 16 % 16),
    hexDigit (n / 16 / 16 / 16 % 16), hexDigit (n / 16 / 16 % 16), hexDigit (n / 16 % 16), hexDigit (n % 16)] := by
  simp [toHex]

theorem chCons_some (c : Char) (t : Option S) : chCons (some c) t = t.map (c :: ·) := by
  cases t <;> rfl

theorem hexCons_some (n : Nat) (t : Option S) : hexCons (some n) t = t.map (Char.ofNat n :: ·) := by
  cases t <;> rfl

theorem toNat_ne_of (c d : Char) (h : c.toNat ≠ d.toNat) : c ≠ d :=
  fun e => h (congrArg Char.toNat e)

theorem char_lt (c : Char) : c.toNat < 16 ^ 8 := c.val.toNat_lt

/-- a `k`-digit hex escape of `c` reads back as `c` -/
theorem hexCons_toHex (k : Nat) (c : Char) (h : c.toNat < 16 ^ k) (t : Option S) :
    hexCons (ofHex 0 (toHex k c.toNat)) t = t.map (c :: ·) := by
  rw [ofHex_toHex k _ 0 h, Nat.zero_mul, Nat.zero_add, hexCons_some, Char.ofNat_toNat]

theorem unq_simple (q x c : Char) (r : S) (h : simpleEsc x = some c) :
    unq q ('\\' :: x :: r) = (unq q r).map (c :: ·) := by
  rw [unq_bs q x r, h, chCons_some]
  all_goals (rintro rfl; simp [simpleEsc] at h)

theorem unq_esc (p : Char → Bool) (q : Char) (hq : q = '\'' ∨ q = '"') (c : Char) (rest : S) :
    unq q (esc p q c ++ rest) = (unq q rest).map (c :: ·) := by
  unfold esc
  by_cases h1 : c = q ∨ c = '\\'
  · rw [if_pos h1]
    refine unq_simple q c c rest ?_
    rcases h1 with rfl | rfl
    · rcases hq with rfl | rfl <;> rfl
    · rfl
  rw [if_neg h1]
  by_cases h2 : c = '\t'
  · subst h2; exact unq_simple q 't' '\t' rest rfl
  rw [if_neg h2]
  by_cases h3 : c = '\n'
  · subst h3; exact unq_simple q 'n' '\n' rest rfl
  rw [if_neg h3]
  by_cases h4 : c = '\r'
  · subst h4; exact unq_simple q 'r' '\r' rest rfl
  rw [if_neg h4]
  have plain : unq q (c :: rest) = (unq q rest).map (c :: ·) := by
    rw [unq_plain q c rest (fun e => h1 (Or.inr e)), if_neg (fun e => h1 (Or.inl e)), if_neg h3, chCons_some]
  have hexx : c.toNat < 16 ^ 2 → unq q (('\\' :: 'x' :: toHex 2 c.toNat) ++ rest) = (unq q rest).map (c :: ·) := by
    intro h
    rw [← hexCons_toHex 2 c h, toHex2]
    exact unq_x ..
  by_cases h5 : c.toNat < 32 ∨ c.toNat = 127
  · rw [if_pos h5]; exact hexx (by omega)
  rw [if_neg h5]
  by_cases h6 : c.toNat < 127
  · rw [if_pos h6]; exact plain
  rw [if_neg h6]
  by_cases h7 : p c = true
  · rw [if_pos h7]; exact plain
  rw [if_neg h7]
  by_cases h8 : c.toNat < 256
  · rw [if_pos h8]; exact hexx h8
  rw [if_neg h8]
  by_cases h9 : c.toNat < 65536
  · rw [if_pos h9, ← hexCons_toHex 4 c h9, toHex4]
    exact unq_u ..
  · rw [if_neg h9, ← hexCons_toHex 8 c (char_lt c), toHex8]
    exact unq_U ..

theorem unq_escAll (p : Char → Bool) (q : Char) (hq : q = '\'' ∨ q = '"') (s : S) :
    unq q (escAll p q s ++ [q]) = some s := by
  induction s with
  | nil =>
    have : q ≠ '\\' := by rcases hq with h | h <;> (subst h; decide)
    simp [escAll, unq_plain q q [] this]
  | cons c r ih =>
    simp only [escAll, List.append_assoc]
    rw [unq_esc p q hq, ih]
    rfl

theorem repr_roundtrip (p : Char → Bool) (s : S) : pyUnquote (pyRepr p s) = some s := by
  unfold pyRepr pyUnquote
  have hq : quoteOf s = '\'' ∨ quoteOf s = '"' := by
    unfold quoteOf; split <;> simp
  simp only [hq, if_true]
  exact unq_escAll p _ hq s

theorem isDigit_digit : ∀ k : Fin 10, isDigit (Char.ofNat (48 + k.val)) = true := by decide

def undec (s : S) : Nat := s.foldl (fun a c => a * 10 + (c.toNat - 48)) 0

theorem digit_val : ∀ k : Fin 10, (Char.ofNat (48 + k.val)).toNat - 48 = k.val := by decide

theorem undec_append (a b : S) : undec (a ++ b) = b.foldl (fun a c => a * 10 + (c.toNat - 48)) (undec a) := by
  simp [undec, List.foldl_append]

theorem decAux_spec : ∀ (fuel n : Nat) (acc : S),
    ∃ ds, decAux fuel n acc = ds ++ acc ∧ (∀ c ∈ ds, isDigit c = true) ∧ (0 < fuel → ds ≠ []) ∧ (n < 10 ^ fuel → undec ds = n) := by
  intro fuel
  induction fuel with
  | zero => intro n acc; exact ⟨[], by simp [decAux], by simp, by simp, fun h => by simp at h; simp [undec, h]⟩
  | succ f ih =>
    intro n acc
    have hlt : n % 10 < 10 := Nat.mod_lt _ (by omega)
    have hd : isDigit (Char.ofNat (48 + n % 10)) = true := isDigit_digit ⟨n % 10, hlt⟩
    have hv : (Char.ofNat (48 + n % 10)).toNat - 48 = n % 10 := digit_val ⟨n % 10, hlt⟩
    unfold decAux
    by_cases h : n / 10 = 0
    · simp only [h, if_true]
      refine ⟨[Char.ofNat (48 + n % 10)], by simp, by simpa using hd, by simp, fun _ => ?_⟩
      simp [undec, hv]; omega
    · simp only [h, if_false]
      obtain ⟨ds, h1, h2, _, h4⟩ := ih (n / 10) (Char.ofNat (48 + n % 10) :: acc)
      refine ⟨ds ++ [Char.ofNat (48 + n % 10)], by simp [h1],
        List.forall_mem_append.2 ⟨h2, List.forall_mem_singleton.2 hd⟩, by simp, fun hn => ?_⟩
      rw [undec_append, h4 ((Nat.div_lt_iff_lt_mul (by decide)).2 hn)]
      simp [hv, Nat.div_add_mod']

theorem lt_pow_succ (n : Nat) : n < 10 ^ (n + 1) :=
  Nat.lt_of_lt_of_le (Nat.lt_pow_self (by decide)) (Nat.pow_le_pow_right (by decide) (Nat.le_succ n))

theorem dec_spec (n : Nat) : dec n ≠ [] ∧ (∀ c ∈ dec n, isDigit c = true) ∧ undec (dec n) = n := by
  obtain ⟨ds, h1, h2, h3, h4⟩ := decAux_spec (n + 1) n []
  have : dec n = ds := by unfold dec; simpa using h1
  rw [this]
  exact ⟨h3 (by omega), h2, h4 (lt_pow_succ n)⟩

theorem dec_injective (i j : Nat) (h : dec i = dec j) : i = j := by
  have := congrArg undec h
  rwa [(dec_spec i).2.2, (dec_spec j).2.2] at this

theorem last_append (xs ys : S) (c : Char) (h : ys.getLast? = some c) : (xs ++ ys).getLast? = some c := by
  simp [List.getLast?_append, h]

theorem getLast_fieldVar (name : S) : (fieldVar name).getLast? = some 'v' :=
  last_append ('_' :: '_' :: name) _ 'v' rfl

theorem fieldVar_ne_of_getLast (name : S) {x : S} (h : x.getLast? ≠ some 'v') : fieldVar name ≠ x :=
  fun e => h (e ▸ getLast_fieldVar name)

theorem fieldVar_inj (a b : S) (h : fieldVar a = fieldVar b) : a = b := by
  simp only [fieldVar, List.cons.injEq, true_and] at h
  exact List.append_cancel_right h

/-- Rendered lines against expected `String` literals, compared as character lists. With `simp only [List.map_cons, List.map_nil]` and
`repeat rw [String.toList_ofList]` behind it, each `"…".toList` unifies with its literal and the elaborator supplies the characters;
left to `decide`, the kernel would encode or decode every literal itself, which is slow and grows faster than the length. -/
theorem map_ofList_eq {xs : List S} {ys : List String} (h : xs = ys.map String.toList) : xs.map String.ofList = ys := by
  subst h
  simp [Function.comp_def]

end DW.Names
