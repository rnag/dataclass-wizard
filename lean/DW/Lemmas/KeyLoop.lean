/- The key loop of the generated default-engine loader, one key at a time: what a key contributes (`keyStep`), the equation
the soundness, key-deletion and unknown-key proofs (Sound, C09, C10) go through (`loadKeysWith_cons`), which keyword
arguments the loop hands to the constructor step, and how a run over a sub-document relates to a run over the whole document. -/
import DW.Lemmas.Post
namespace DW.KeyLoop
open DW

/-- the keyword arguments the key loop collects: for every key that resolves to a field and whose value its loader
accepts, the field name with the converted value, in document order -/
def loadedPairs (fl : S → JVal → LRes) (eff : MetaCfg) (ci : ClassInfo) : List (S × JVal) → List (S × PyVal)
  | [] => []
  | (k, v) :: r =>
    match resolveKey eff ci k with
    | .ok (.field f) =>
      (match fl f v with
       | .ok y => (f, y) :: loadedPairs fl eff ci r
       | .error _ => loadedPairs fl eff ci r)
    | _ => loadedPairs fl eff ci r

/-- the fields the keys of a document resolve to, in document order -/
def resolvedFields (eff : MetaCfg) (ci : ClassInfo) : List (S × JVal) → List S
  | [] => []
  | (k, _) :: r =>
    match resolveKey eff ci k with
    | .ok (.field f) => f :: resolvedFields eff ci r
    | _ => resolvedFields eff ci r

/-- what the key `k` holding `v` contributes: a constructor argument, a captured pair, or nothing -/
def keyStep (fl : S → JVal → LRes) (eff : MetaCfg) (ci : ClassInfo) (k : S) (v : JVal) :
    Except LErr (List (S × PyVal) × List (PyVal × PyVal)) :=
  resolveKey eff ci k >>= fun
    | .field f => (fl f v).mapError (setAttribution ci.name f) >>= fun y => pure ([(f, y)], [])
    | .ignored => pure ([], [])
    | .unknown =>
      if eff.raiseOnUnknown.getD false then .error (.unknownKeys ci.name [k])
      else pure ([], if eff.tag.isSome && k == eff.tagKey.getD Generated.tagKey.toList then [] else [(.str k, v.toPy)])

theorem loadKeysWith_cons (fl : S → JVal → LRes) (eff : MetaCfg) (ci : ClassInfo) (k : S) (v : JVal) (r : List (S × JVal)) :
    loadKeysWith fl eff ci ((k, v) :: r) = (do
      let here ← keyStep fl eff ci k v
      let more ← loadKeysWith fl eff ci r
      pure (here.1 ++ more.1, here.2 ++ more.2)) := by
  rw [loadKeysWith, keyStep]
  cases resolveKey eff ci k with
  | error e => rfl
  | ok res =>
    cases res <;> dsimp only [bind, Except.bind]
    · next f => cases (fl f v).mapError (setAttribution ci.name f) <;> cases loadKeysWith fl eff ci r <;> rfl
    · cases loadKeysWith fl eff ci r <;> rfl
    · cases eff.raiseOnUnknown.getD false
      · cases loadKeysWith fl eff ci r <;> cases (eff.tag.isSome && k == eff.tagKey.getD Generated.tagKey.toList) <;> rfl
      · rfl

theorem loadKeysWith_cons_ok {fl : S → JVal → LRes} {eff : MetaCfg} {ci : ClassInfo} {k : S} {v : JVal} {r : List (S × JVal)}
    {kw : List (S × PyVal)} {ca : List (PyVal × PyVal)} :
    loadKeysWith fl eff ci ((k, v) :: r) = .ok (kw, ca) ↔
      ∃ here, keyStep fl eff ci k v = .ok here ∧
        ∃ more, loadKeysWith fl eff ci r = .ok more ∧ here.1 ++ more.1 = kw ∧ here.2 ++ more.2 = ca := by
  rw [loadKeysWith_cons]
  simp only [Except.bind_eq_ok, Except.pure_eq_ok, Prod.mk.injEq]

theorem keyStep_post {fl : S → JVal → LRes} {P : S → PyVal → Prop} (hfl : ∀ f v, Post (fl f v) (P f))
    (eff : MetaCfg) (ci : ClassInfo) (k : S) (v : JVal) : Post (keyStep fl eff ci k v) (fun a => ∀ p ∈ a.1, P p.1 p.2) := by
  refine .bind' fun res _ => ?_
  cases res with
  | field f => exact .bind (hfl f v).mapError fun y hy => .pure (List.forall_mem_singleton.2 hy)
  | ignored => exact .pure (fun _ h => nomatch h)
  | unknown => exact .ite (fun _ => .error) fun _ => .pure (fun _ h => nomatch h)

theorem loadKeysWith_post {fl : S → JVal → LRes} {P : S → PyVal → Prop} (hfl : ∀ f v, Post (fl f v) (P f))
    (eff : MetaCfg) (ci : ClassInfo) : ∀ kvs : List (S × JVal),
      Post (loadKeysWith fl eff ci kvs) (fun r => ∀ p ∈ r.1, P p.1 p.2)
  | [] => .pure (fun _ h => nomatch h)
  | (k, v) :: r => by
    rw [loadKeysWith_cons]
    exact .bind (keyStep_post hfl eff ci k v) fun _ ha => .bind (loadKeysWith_post hfl eff ci r) fun _ hb =>
      .pure (List.forall_mem_append.2 ⟨ha, hb⟩)

theorem keyStep_returns (fl : S → JVal → LRes) (eff : MetaCfg) (ci : ClassInfo) (k : S) (v : JVal) (r : List (S × JVal)) :
    Post (keyStep fl eff ci k v) (fun a => loadedPairs fl eff ci ((k, v) :: r) = a.1 ++ loadedPairs fl eff ci r ∧
      resolvedFields eff ci ((k, v) :: r) = a.1.map (·.1) ++ resolvedFields eff ci r) := by
  rw [loadedPairs, resolvedFields]
  refine .bind' fun res hres => ?_
  rw [hres]
  cases res with
  | field f =>
    refine .bind' fun y hy => .pure ?_
    dsimp only
    rw [Post.of_mapError hy]
    exact ⟨rfl, rfl⟩
  | ignored => exact .pure ⟨rfl, rfl⟩
  | unknown => exact .ite (fun _ => .error) fun _ => .pure ⟨rfl, rfl⟩

/-- a successful run of the key loop returns exactly `loadedPairs`, and every key that resolved to a field was accepted -/
theorem loadKeysWith_ok (fl : S → JVal → LRes) (eff : MetaCfg) (ci : ClassInfo) :
    ∀ (kvs : List (S × JVal)) (kw : List (S × PyVal)) (ca : List (PyVal × PyVal)),
    loadKeysWith fl eff ci kvs = .ok (kw, ca) →
    kw = loadedPairs fl eff ci kvs ∧ kw.map (·.1) = resolvedFields eff ci kvs := by
  intro kvs
  induction kvs with
  | nil => intro kw ca h; cases h; exact ⟨rfl, rfl⟩
  | cons kv r ih =>
    intro kw ca h
    obtain ⟨here, hhere, more, hmore, rfl, _⟩ := loadKeysWith_cons_ok.mp h
    obtain ⟨h1, h2⟩ := keyStep_returns fl eff ci kv.1 kv.2 r here hhere
    obtain ⟨h3, h4⟩ := ih more.1 more.2 hmore
    exact ⟨by rw [h1, ← h3], by rw [h2, List.map_append, h4]⟩

/-- the key loop treats every key on its own: when it gets through a document it gets through every sub-document -/
theorem loadKeysWith_filter (fl : S → JVal → LRes) (eff : MetaCfg) (ci : ClassInfo) (keep : S → Bool) :
    ∀ (kvs : List (S × JVal)) (r : List (S × PyVal) × List (PyVal × PyVal)),
    loadKeysWith fl eff ci kvs = .ok r →
    ∃ r', loadKeysWith fl eff ci (kvs.filter (fun kv => keep kv.1)) = .ok r' := by
  intro kvs
  induction kvs with
  | nil => exact fun _ _ => ⟨([], []), rfl⟩
  | cons kv rest ih =>
    intro r h
    obtain ⟨here, hhere, more, hmore, _, _⟩ := loadKeysWith_cons_ok.mp h
    obtain ⟨r1, hr1⟩ := ih more hmore
    rw [List.filter_cons]
    split
    · exact ⟨_, loadKeysWith_cons_ok.mpr ⟨here, hhere, r1, hr1, rfl, rfl⟩⟩
    · exact ⟨r1, hr1⟩

end DW.KeyLoop
