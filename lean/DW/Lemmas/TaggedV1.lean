/- Tag dispatch of the v1 engine at a Union annotation: helper lemmas shared by the C13 property theorems and the v1
structural round trip (`DW.RTV1`). -/
import DW.Model.LoadV1
import DW.Lemmas.Tagged

namespace DW.Tagged
open DW

theorem v1Tagged_eq_pick (std : Std) (cfg : Option MetaCfg) (tg : S) (ts : List Ty) (o : JVal) :
    v1Tagged std cfg tg ts o = match pick cfg tg ts with
      | some (ci, ftys) => v1ClassWith (fun f v => v1Field std cfg f v ftys) (effMeta ci.cmeta cfg) ci o
      | none => perr := by
  induction ts with
  | nil => rfl
  | cons t r ih =>
    -- unfolded before the case split: each case then reduces a `match`, not the recursion through `loadV1`'s mutual block
    unfold v1Tagged pick
    rw [ih]
    cases t with
    | cls ci ftys =>
      dsimp only
      split <;> rfl
    | _ => rfl

theorem v1Tagged_dispatch (std : Std) (cfg : Option MetaCfg) (tg : S) (pre post : List Ty)
    (ci : ClassInfo) (ftys : List (S × Ty)) (o : JVal)
    (hk : memberTag cfg ci = some tg)
    (hpre : ∀ t ∈ pre, tagOf cfg t ≠ some tg) (hpost : ∀ t ∈ post, tagOf cfg t ≠ some tg) :
    v1Tagged std cfg tg (pre ++ .cls ci ftys :: post) o
      = v1ClassWith (fun f v => v1Field std cfg f v ftys) (effMeta ci.cmeta cfg) ci o := by
  rw [v1Tagged_eq_pick, pick_unique cfg tg pre post ci ftys hk hpre hpost]

theorem v1Tagged_unassigned (std : Std) (cfg : Option MetaCfg) (tg : S) (ts : List Ty) (o : JVal)
    (h : ∀ t ∈ ts, tagOf cfg t ≠ some tg) : v1Tagged std cfg tg ts o = .error (.parse none none) := by
  rw [v1Tagged_eq_pick, pick_none cfg tg ts h]; rfl

theorem loadV1_union_dict (std : Std) (cfg : Option MetaCfg) (ts : List Ty) (kvs : List (S × JVal)) :
    loadV1 std cfg (.union ts) (.dict kvs) =
      match (if v1AnyTagged cfg ts then
          (kvs.find? (fun kv => kv.1 == (cfg.bind (·.tagKey)).getD Generated.tagKey.toList)).map (·.2) else none) with
      | some tv =>
        match tv with
        | .str tg => v1Tagged std cfg tg ts (.dict kvs)
        | _ => perr
      | none =>
        match v1UnionExact std cfg ts (.dict kvs) with
        | some r => r
        | none =>
          match v1UnionCoerce std cfg ts (.dict kvs) with
          | some r => r
          | none => perr := by
  -- a dict is not `null`: the test of `loadV1`'s `None` shortcut evaluates to `false`
  exact if_neg Bool.false_ne_true

theorem v1_dispatch_core (std : Std) (cfg : Option MetaCfg) (tg : S) (pre post : List Ty)
    (ci : ClassInfo) (ftys : List (S × Ty)) (kvs : List (S × JVal))
    (hk : memberTag cfg ci = some tg)
    (hpre : ∀ t ∈ pre, tagOf cfg t ≠ some tg) (hpost : ∀ t ∈ post, tagOf cfg t ≠ some tg)
    (htag : kvs.find? (fun kv => kv.1 == (cfg.bind (·.tagKey)).getD Generated.tagKey.toList)
              = some ((cfg.bind (·.tagKey)).getD Generated.tagKey.toList, .str tg)) :
    loadV1 std cfg (.union (pre ++ .cls ci ftys :: post)) (.dict kvs)
      = v1ClassWith (fun f v => v1Field std cfg f v ftys) (effMeta ci.cmeta cfg) ci (.dict kvs) := by
  have htagged : v1AnyTagged cfg (pre ++ .cls ci ftys :: post) = true :=
    List.any_eq_true.mpr ⟨.cls ci ftys, by simp, by simp [isTaggedMember, hk]⟩
  rw [loadV1_union_dict, htagged, htag]
  exact v1Tagged_dispatch std cfg tg pre post ci ftys (.dict kvs) hk hpre hpost

end DW.Tagged
