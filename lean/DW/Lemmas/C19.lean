/- C19: the orders under which inference and the merges only ever accommodate more (`TCExt`, `FieldsExt`, `ElemsExt`),
and that inference accommodates the document it reads. -/
import DW.Model.C19Spec
import DW.Lemmas.C19Induct

namespace DW.Gs
open DW DW.Str

theorem fieldsLookup_set (k k' : S) (tc : TC) (fs : Fields) :
    fieldsLookup k' (fieldsSet k tc fs) = if k = k' then some tc else fieldsLookup k' fs := by
  induction fs with
  | nil => simp [fieldsSet, fieldsLookup]
  | cons hd r ih =>
    obtain ⟨k0, tc0⟩ := hd
    by_cases hk : k0 = k
    · subst hk
      by_cases hk' : k0 = k' <;> simp [fieldsSet, fieldsLookup, hk']
    · by_cases hk' : k0 = k'
      · subst hk'
        simp [fieldsSet, fieldsLookup, hk, Ne.symm hk]
      · simp [fieldsSet, fieldsLookup, hk, hk', ih]

theorem fieldsLookup_append (k : S) (fs x : Fields) :
    fieldsLookup k (fs ++ x) = (fieldsLookup k fs).or (fieldsLookup k x) := by
  induction fs with
  | nil => simp [fieldsLookup]
  | cons hd r ih =>
    obtain ⟨k0, tc0⟩ := hd
    by_cases hk : k0 = k <;> simp [fieldsLookup, hk, ih]

theorem fieldsSet_of_none (k : S) (tc : TC) (fs : Fields) (h : fieldsLookup k fs = none) :
    fieldsSet k tc fs = fs ++ [(k, tc)] := by
  induction fs with
  | nil => simp [fieldsSet]
  | cons hd r ih =>
    obtain ⟨k0, tc0⟩ := hd
    by_cases hk : k0 = k
    · simp [fieldsLookup, hk] at h
    · simp [fieldsLookup, hk] at h; simp [fieldsSet, hk, ih h]

/-! ### extension orders: everything accommodated before is accommodated after -/

def TCExt (std : GsStd) (force : Bool) (a b : TC) : Prop := ∀ v, CoversV std force a v → CoversV std force b v

def FieldsExt (std : GsStd) (force : Bool) (a b : Fields) : Prop :=
  ∀ k tc, fieldsLookup k a = some tc → ∃ tc', fieldsLookup k b = some tc' ∧ TCExt std force tc tc'

def ElemsExt (std : GsStd) (force : Bool) (a b : List Elem) : Prop :=
  ∀ x, CoversElem std force a x → CoversElem std force b x

theorem TCExt.refl (std : GsStd) (force : Bool) (a : TC) : TCExt std force a a := fun _ h => h
theorem TCExt.trans {std : GsStd} {force : Bool} {a b c : TC} (h1 : TCExt std force a b) (h2 : TCExt std force b c) :
    TCExt std force a c := fun v h => h2 v (h1 v h)

theorem FieldsExt.refl (std : GsStd) (force : Bool) (a : Fields) : FieldsExt std force a a :=
  fun _ tc h => ⟨tc, h, TCExt.refl std force tc⟩
theorem FieldsExt.trans {std : GsStd} {force : Bool} {a b c : Fields} (h1 : FieldsExt std force a b)
    (h2 : FieldsExt std force b c) : FieldsExt std force a c := by
  intro k tc h
  obtain ⟨tc1, hl1, e1⟩ := h1 k tc h
  obtain ⟨tc2, hl2, e2⟩ := h2 k tc1 hl1
  exact ⟨tc2, hl2, e1.trans e2⟩

theorem ElemsExt.refl (std : GsStd) (force : Bool) (a : List Elem) : ElemsExt std force a a := fun _ h => h
theorem ElemsExt.trans {std : GsStd} {force : Bool} {a b c : List Elem} (h1 : ElemsExt std force a b)
    (h2 : ElemsExt std force b c) : ElemsExt std force a c := fun x h => h2 x (h1 x h)

theorem CoversObj_ext {std : GsStd} {force : Bool} {a b : Fields} (h : FieldsExt std force a b) :
    ∀ kvs, CoversObj std force a kvs → CoversObj std force b kvs
  | [], _ => trivial
  | (k, v) :: r, hc => by
    obtain ⟨⟨tc, hl, hv⟩, hr⟩ := hc
    obtain ⟨tc', hl', e⟩ := h _ tc hl
    exact ⟨⟨tc', hl', e v hv⟩, CoversObj_ext h r hr⟩

theorem CoversElems_ext {std : GsStd} {force : Bool} {a b : List Elem} (h : ElemsExt std force a b) :
    ∀ xs, CoversElems std force a xs → CoversElems std force b xs
  | [], _ => trivial
  | x :: r, hc => ⟨h x hc.1, CoversElems_ext h r hc.2⟩

theorem CoversElems_mem {std : GsStd} {force : Bool} {es : List Elem} :
    ∀ (ys : List JVal), CoversElems std force es ys → ∀ y ∈ ys, CoversElem std force es y
  | [], _, _, hm => nomatch hm
  | y :: r, hc, y', hm => by
    rcases List.mem_cons.mp hm with rfl | h
    · exact hc.1
    · exact CoversElems_mem r hc.2 y' h

theorem ScalarCov_sub {std : GsStd} {force : Bool} {a b : List Elem} (h : ∀ p, Elem.prim p ∈ a → Elem.prim p ∈ b)
    (v : JVal) (hc : ScalarCov std force a v) : ScalarCov std force b v :=
  fun ps hps p hp => h p (hc ps hps p hp)

theorem CoversV_scalar (std : GsStd) (force : Bool) (tc : TC) {v : JVal} (hv : v.IsScalar) :
    CoversV std force tc v ↔ (v = .null → tc.2 = true) ∧ ScalarCov std force tc.1 v := by
  cases v with
  | dict _ | list _ => exact hv.elim
  | null => simp [CoversV, ScalarCov, scalarPrims]
  | bool _ | int _ | float _ | str _ => simp [CoversV]

theorem CoversElem_scalar (std : GsStd) (force : Bool) (es : List Elem) {v : JVal} (hv : v.IsScalar) :
    CoversElem std force es v ↔ ScalarCov std force es v := by
  cases v with
  | dict _ | list _ => exact hv.elim
  | null => simp [CoversElem, ScalarCov, scalarPrims]
  | bool _ | int _ | float _ | str _ => simp [CoversElem]

theorem TCExt_of {std : GsStd} {force : Bool} {a b : TC}
    (hc : ∀ d, Elem.cls d ∈ a.1 → ∃ d', Elem.cls d' ∈ b.1 ∧ FieldsExt std force d.fields d'.fields)
    (hl : ∀ l, Elem.lst l ∈ a.1 → ∃ l', Elem.lst l' ∈ b.1 ∧ ElemsExt std force l.elems l'.elems)
    (hp : ∀ p, Elem.prim p ∈ a.1 → Elem.prim p ∈ b.1) (ho : a.2 = true → b.2 = true) : TCExt std force a b := by
  intro v hv
  cases v using JVal.kindCases with
  | dict kvs =>
    obtain ⟨d, hd, hcov⟩ := hv
    obtain ⟨d', hd', he⟩ := hc d hd
    exact ⟨d', hd', CoversObj_ext he kvs hcov⟩
  | list xs =>
    obtain ⟨l, hl', hcov⟩ := hv
    obtain ⟨l', hl'', he⟩ := hl l hl'
    exact ⟨l', hl'', CoversElems_ext he xs hcov⟩
  | scalar v h =>
    rw [CoversV_scalar std force _ h] at hv ⊢
    exact ⟨fun hn => ho (hv.1 hn), ScalarCov_sub hp _ hv.2⟩

theorem TCExt_of_sub {std : GsStd} {force : Bool} {a b : TC} (hs : ∀ e, e ∈ a.1 → e ∈ b.1) (ho : a.2 = true → b.2 = true) :
    TCExt std force a b :=
  TCExt_of (fun d h => ⟨d, hs _ h, FieldsExt.refl _ _ _⟩) (fun l h => ⟨l, hs _ h, ElemsExt.refl _ _ _⟩) (fun _ => hs _) ho

/-- Only the first class among the elements of a list generator accommodates objects: the other classes need not carry over. -/
theorem ElemsExt_of {std : GsStd} {force : Bool} {a b : List Elem}
    (hm : ∀ m, firstCls a = some m → ∃ m', firstCls b = some m' ∧ FieldsExt std force m.fields m'.fields)
    (hs : ∀ e, (∀ c, e ≠ .cls c) → e ∈ a → e ∈ b) : ElemsExt std force a b := by
  intro x hx
  cases x using JVal.kindCases with
  | dict kvs =>
    obtain ⟨m, hm', hc⟩ := hx
    obtain ⟨m', hm'', he⟩ := hm m hm'
    exact ⟨m', hm'', CoversObj_ext he kvs hc⟩
  | list ys =>
    obtain ⟨l, hl, hc⟩ := hx
    exact ⟨l, hs _ (fun _ => nofun) hl, hc⟩
  | scalar v h =>
    rw [CoversElem_scalar std force _ h] at hx ⊢
    exact ScalarCov_sub (fun p => hs _ (fun _ => nofun)) _ hx

theorem ElemsExt_of_sub {std : GsStd} {force : Bool} {a b : List Elem} (hs : ∀ e, e ∈ a → e ∈ b)
    (hm : ∀ m, firstCls a = some m → firstCls b = some m) : ElemsExt std force a b :=
  ElemsExt_of (fun m h => ⟨m, hm m h, FieldsExt.refl _ _ _⟩) (fun e _ => hs e)

theorem tcAppend_sub (dedup : Bool) (tc : TC) (e e' : Elem) (h : e' ∈ tc.1) : e' ∈ (tcAppend dedup tc e).1 := by
  unfold tcAppend
  split
  · exact h
  · simp [h]

theorem tcAppend_opt (dedup : Bool) (tc : TC) (e : Elem) : (tcAppend dedup tc e).2 = tc.2 := by
  unfold tcAppend
  split <;> rfl

theorem elemEq_prim (dedup : Bool) (x : Elem) (p : Prim) (h : elemEq dedup x (.prim p) = true) : x = .prim p := by
  cases x with
  | prim q => simp [elemEq] at h; rw [h]
  | cls _ | lst _ => simp [elemEq] at h

theorem tcAppend_prim_mem (dedup : Bool) (tc : TC) (p : Prim) : Elem.prim p ∈ (tcAppend dedup tc (.prim p)).1 := by
  unfold tcAppend
  split
  next h =>
    simp only [elemIn, List.any_eq_true] at h
    obtain ⟨x, hx, he⟩ := h
    rw [← elemEq_prim dedup x p he]; exact hx
  next => simp

theorem elemIn_false (e : Elem) (he : ∀ p, e ≠ .prim p) (es : List Elem) : elemIn false e es = false := by
  simp only [elemIn, List.any_eq_false]
  intro x _
  cases e with
  | prim p => exact absurd rfl (he p)
  | cls _ | lst _ => cases x <;> simp [elemEq]

theorem tcAppend_false (e : Elem) (he : ∀ p, e ≠ .prim p) (tc : TC) : tcAppend false tc e = (tc.1 ++ [e], tc.2) := by
  simp [tcAppend, elemIn_false e he]

theorem tcAppend_false_mem (tc : TC) (e : Elem) : e ∈ (tcAppend false tc e).1 := by
  cases e with
  | prim p => exact tcAppend_prim_mem false tc p
  | cls d => simp [tcAppend_false (.cls d) (fun _ => nofun)]
  | lst l => simp [tcAppend_false (.lst l) (fun _ => nofun)]

theorem tcAppendAll_sub (dedup : Bool) : ∀ (es : List Elem) (tc : TC) (e' : Elem), e' ∈ tc.1 → e' ∈ (tcAppendAll dedup tc es).1
  | [], _, _, h => h
  | e :: r, tc, e', h => tcAppendAll_sub dedup r _ e' (tcAppend_sub dedup tc e e' h)

theorem tcAppendAll_opt (dedup : Bool) : ∀ (es : List Elem) (tc : TC), (tcAppendAll dedup tc es).2 = tc.2
  | [], _ => rfl
  | e :: r, tc => (tcAppendAll_opt dedup r _).trans (tcAppend_opt dedup tc e)

theorem tcAppendAll_mem (dedup : Bool) (e : Elem) (he : ∀ tc, e ∈ (tcAppend dedup tc e).1) :
    ∀ (es : List Elem) (tc : TC), e ∈ es → e ∈ (tcAppendAll dedup tc es).1
  | [], _, h => nomatch h
  | e0 :: r, tc, h => by
    rw [tcAppendAll]
    rcases List.mem_cons.mp h with rfl | h
    · exact tcAppendAll_sub dedup r _ _ (he tc)
    · exact tcAppendAll_mem dedup e he r _ h

theorem firstCls_append (a b : List Elem) :
    firstCls (a ++ b) = (firstCls a).or (firstCls b) := by
  induction a with
  | nil => simp [firstCls]
  | cons e r ih => cases e <;> simp [firstCls, ih]

theorem firstCls_replace (d : DGen) (es : List Elem) (m : DGen) (h : firstCls es = some m) :
    firstCls (replaceFirstCls d es) = some d := by
  induction es with
  | nil => nomatch h
  | cons e r ih =>
    cases e with
    | cls c => simp [replaceFirstCls, firstCls]
    | prim _ | lst _ => simp only [firstCls] at h; simp [replaceFirstCls, firstCls, ih h]

theorem mem_replaceFirstCls (d : DGen) (e : Elem) (he : ∀ c, e ≠ .cls c) :
    ∀ (es : List Elem), e ∈ es → e ∈ replaceFirstCls d es
  | [], h => h
  | .cls c :: r, h => by
    rw [replaceFirstCls]
    exact List.mem_cons_of_mem _ ((List.mem_cons.mp h).resolve_left (he c))
  | .prim _ :: r, h | .lst _ :: r, h => by
    simp only [replaceFirstCls]
    exact List.mem_cons.mpr ((List.mem_cons.mp h).imp_right (mem_replaceFirstCls d e he r))

theorem soleCls_some {es : List Elem} {a : DGen} (h : soleCls es = some a) : es = [.cls a] := by
  unfold soleCls at h
  split at h
  · cases h; rfl
  · cases h

theorem soleLst_some {es : List Elem} {a : LGen} (h : soleLst es = some a) : es = [.lst a] := by
  unfold soleLst at h
  split at h
  · cases h; rfl
  · cases h

theorem ElemsExt_replace {std : GsStd} {force : Bool} (es : List Elem) (m d : DGen) (hm : firstCls es = some m)
    (hd : FieldsExt std force m.fields d.fields) : ElemsExt std force es (replaceFirstCls d es) :=
  ElemsExt_of (fun m' hm' => ⟨d, firstCls_replace d es m hm, by rw [hm] at hm'; cases hm'; exact hd⟩)
    (fun e he => mem_replaceFirstCls d e he es)

theorem ElemsExt_tcAppend {std : GsStd} {force : Bool} (dedup : Bool) (es : List Elem) (o : Bool) (e : Elem) :
    ElemsExt std force es (tcAppend dedup (es, o) e).1 := by
  refine ElemsExt_of_sub (tcAppend_sub dedup (es, o) e) fun m hm => ?_
  unfold tcAppend
  split
  · exact hm
  · simp [firstCls_append, hm]

/-! ### merges keep what the left operand accommodated (whatever the de-duplication mode) -/

theorem TCExt_orOpt (std : GsStd) (force : Bool) (s : TC) (o : Bool) : TCExt std force s (s.1, s.2 || o) :=
  TCExt_of_sub (fun _ h => h) (fun h => by simp [h])

theorem TCExt_sole_cls {std : GsStd} {force : Bool} {a d : DGen} {o o' : Bool}
    (hd : FieldsExt std force a.fields d.fields) (ho : o = true → o' = true) :
    TCExt std force ([.cls a], o) ([.cls d], o') :=
  TCExt_of (fun c hc => by cases List.mem_singleton.mp hc; exact ⟨d, List.mem_singleton_self _, hd⟩)
    (fun _ h => nomatch List.mem_singleton.mp h) (fun _ h => nomatch List.mem_singleton.mp h) ho

theorem TCExt_sole_lst {std : GsStd} {force : Bool} {a l : LGen} {o o' : Bool}
    (hl : ElemsExt std force a.elems l.elems) (ho : o = true → o' = true) :
    TCExt std force ([.lst a], o) ([.lst l], o') :=
  TCExt_of (fun _ h => nomatch List.mem_singleton.mp h)
    (fun c hc => by cases List.mem_singleton.mp hc; exact ⟨l, List.mem_singleton_self _, hl⟩)
    (fun _ h => nomatch List.mem_singleton.mp h) ho

theorem TCExt_tcAppend (std : GsStd) (force : Bool) (dedup : Bool) (s : TC) (e : Elem) :
    TCExt std force s (tcAppend dedup s e) :=
  TCExt_of_sub (tcAppend_sub dedup s e) (fun h => by rw [tcAppend_opt]; exact h)

theorem TCExt_tcAppendAll (std : GsStd) (force : Bool) (dedup : Bool) (s : TC) (es : List Elem) :
    TCExt std force s (tcAppendAll dedup s es) :=
  TCExt_of_sub (tcAppendAll_sub dedup es s) (fun h => by rw [tcAppendAll_opt]; exact h)

theorem FieldsExt_set {std : GsStd} {force : Bool} (k : S) (tc tc' : TC) (fs : Fields) (hl : fieldsLookup k fs = some tc)
    (he : TCExt std force tc tc') : FieldsExt std force fs (fieldsSet k tc' fs) := by
  intro k0 t0 h0
  by_cases hk : k0 = k
  · subst hk
    rw [hl] at h0; cases h0
    exact ⟨tc', by rw [fieldsLookup_set, if_pos rfl], he⟩
  · exact ⟨t0, by rw [fieldsLookup_set, if_neg (Ne.symm hk)]; exact h0, TCExt.refl _ _ _⟩

theorem FieldsExt_append {std : GsStd} {force : Bool} (fs x : Fields) : FieldsExt std force fs (fs ++ x) :=
  fun k tc h => ⟨tc, by rw [fieldsLookup_append, h]; rfl, TCExt.refl _ _ _⟩

theorem FieldsExt_cons {std : GsStd} {force : Bool} {k : S} {tc tc' : TC} {r acc res : Fields}
    (hl : fieldsLookup k acc = some tc') (he : TCExt std force tc tc') (hacc : FieldsExt std force acc res)
    (hr : FieldsExt std force r res) : FieldsExt std force ((k, tc) :: r) res := by
  intro k0 t0 h0
  by_cases hk : k = k0
  · subst hk
    simp [fieldsLookup] at h0
    subst h0
    obtain ⟨tc2, hl2, e2⟩ := hacc k tc' hl
    exact ⟨tc2, hl2, he.trans e2⟩
  · simp [fieldsLookup, hk] at h0
    exact hr k0 t0 h0

/- `termination_by structural`, here and in the other blocks over the merges: the recursion is on the right operand;
without the hint Lean compiles the block by well-founded recursion, which is slow to check. -/
mutual
theorem mergeTC_left (std : GsStd) (force dedup : Bool) :
    ∀ (oes : List Elem) (oopt : Bool) (s : TC), TCExt std force s (mergeTC dedup s oes oopt)
  | [], oopt, s => by rw [mergeTC]; exact TCExt_orOpt std force s oopt
  | [e], oopt, s => by
    rw [mergeTC]
    exact (TCExt_orOpt std force s oopt).trans (mergeOne_left std force dedup e _)
  | e :: e' :: r, oopt, s => by
    rw [mergeTC]
    exact (TCExt_orOpt std force s oopt).trans (TCExt_tcAppendAll std force dedup _ _)
termination_by structural x => x
theorem mergeOne_left (std : GsStd) (force dedup : Bool) :
    ∀ (e : Elem) (s : TC), TCExt std force s (mergeOne dedup s e)
  | .prim p, s => by rw [mergeOne]; exact TCExt_tcAppend std force dedup s _
  | .cls b, (es, o) => by
    rw [mergeOne]
    split
    next a ha =>
      cases soleCls_some ha
      exact TCExt_sole_cls (mergeD_left std force dedup b a) id
    next => exact TCExt_tcAppend std force dedup _ _
  | .lst b, (es, o) => by
    rw [mergeOne]
    split
    next a ha =>
      cases soleLst_some ha
      exact TCExt_sole_lst (mergeL_left std force dedup b a) id
    next => exact TCExt_tcAppend std force dedup _ _
termination_by structural x => x
theorem mergeD_left (std : GsStd) (force dedup : Bool) :
    ∀ (b a : DGen), FieldsExt std force a.fields (mergeD dedup a b).fields
  | .mk _ _ bfs, a => by
    rw [mergeD]
    exact mergeFields_left std force dedup bfs a.fields
termination_by structural x => x
theorem mergeFields_left (std : GsStd) (force dedup : Bool) :
    ∀ (bfs : List (S × List Elem × Bool)) (afs : Fields), FieldsExt std force afs (mergeFields dedup afs bfs)
  | [], afs => by rw [mergeFields]; exact FieldsExt.refl _ _ _
  | (k, oes, oopt) :: rest, afs => by
    rw [mergeFields]
    refine FieldsExt.trans ?_ (mergeFields_left std force dedup rest _)
    cases hl : fieldsLookup k afs with
    | none => exact FieldsExt_append afs _
    | some tc => exact FieldsExt_set k tc _ afs hl (mergeTC_left std force dedup oes oopt tc)
termination_by structural x => x
theorem mergeL_left (std : GsStd) (force dedup : Bool) :
    ∀ (b a : LGen), ElemsExt std force a.elems (mergeL dedup a b).elems
  | .mk _ _ _ bes _, a => by
    rw [mergeL]
    exact mergeLElems_left std force dedup bes a.elems
termination_by structural x => x
theorem mergeLElems_left (std : GsStd) (force dedup : Bool) :
    ∀ (bes aes : List Elem), ElemsExt std force aes (mergeLElems dedup aes bes)
  | [], aes => by rw [mergeLElems]; exact ElemsExt.refl _ _ _
  | t :: rest, aes => by
    rw [mergeLElems]
    exact (mergeLStep_left std force dedup t aes).trans (mergeLElems_left std force dedup rest _)
termination_by structural x => x
theorem mergeLStep_left (std : GsStd) (force dedup : Bool) :
    ∀ (e : Elem) (aes : List Elem), ElemsExt std force aes (mergeLStep dedup aes e)
  | .cls b, aes => by
    rw [mergeLStep]
    split
    next m hm => exact ElemsExt_replace aes m _ hm (mergeD_left std force dedup b m)
    next => exact ElemsExt_tcAppend dedup aes false _
  | .lst l, aes => by rw [mergeLStep]; exact ElemsExt_tcAppend dedup aes false _
  | .prim p, aes => by rw [mergeLStep]; exact ElemsExt_tcAppend dedup aes false _
termination_by structural x => x
end

/-! ### with identity comparison in `append`, merges also keep what the right operand accommodated -/

theorem mergeLStep_prim_left (dedup : Bool) (e : Elem) (aes : List Elem) (p : Prim) (h : Elem.prim p ∈ aes) :
    Elem.prim p ∈ mergeLStep dedup aes e := by
  cases e with
  | cls b =>
    rw [mergeLStep]
    split
    · exact mem_replaceFirstCls _ (.prim p) (fun _ => nofun) _ h
    · exact tcAppend_sub dedup (aes, false) _ _ h
  | lst _ | prim _ => rw [mergeLStep]; exact tcAppend_sub dedup (aes, false) _ _ h

theorem mergeLElems_prim_left (dedup : Bool) : ∀ (bes aes : List Elem) (p : Prim), Elem.prim p ∈ aes →
    Elem.prim p ∈ mergeLElems dedup aes bes
  | [], aes, p, h => by rw [mergeLElems]; exact h
  | t :: rest, aes, p, h => by
    rw [mergeLElems]
    exact mergeLElems_prim_left dedup rest _ p (mergeLStep_prim_left dedup t aes p h)

theorem mergeLElems_prim_right (dedup : Bool) : ∀ (bes aes : List Elem) (p : Prim), Elem.prim p ∈ bes →
    Elem.prim p ∈ mergeLElems dedup aes bes
  | [], _, _, h => nomatch h
  | t :: rest, aes, p, h => by
    rw [mergeLElems]
    rcases List.mem_cons.mp h with rfl | h
    · apply mergeLElems_prim_left
      rw [mergeLStep]
      exact tcAppend_prim_mem dedup (aes, false) p
    · exact mergeLElems_prim_right dedup rest _ p h

theorem TCExt_singleton_tcAppend (std : GsStd) (force : Bool) (s : TC) (e : Elem) (o : Bool) (ho : o = true → s.2 = true) :
    TCExt std force ([e], o) (tcAppend false s e) :=
  TCExt_of_sub (fun x h => by rw [List.mem_singleton.mp h]; exact tcAppend_false_mem s e)
    (fun h => by rw [tcAppend_opt]; exact ho h)

mutual
theorem mergeTC_right (std : GsStd) (force : Bool) :
    ∀ (oes : List Elem) (oopt : Bool) (s : TC), TCExt std force (oes, oopt) (mergeTC false s oes oopt)
  | [], oopt, s => by
    rw [mergeTC]
    exact TCExt_of_sub (fun _ h => nomatch h) (fun (h : oopt = true) => by simp [h])
  | [e], oopt, s => by
    rw [mergeTC]
    exact mergeOne_right std force e (s.1, s.2 || oopt) oopt (fun h => by simp [h])
  | e :: e' :: r, oopt, s => by
    rw [mergeTC]
    exact TCExt_of_sub (fun x h => tcAppendAll_mem false x (tcAppend_false_mem · x) _ _ h)
      (fun (h : oopt = true) => by rw [tcAppendAll_opt]; simp [h])
termination_by structural x => x
theorem mergeOne_right (std : GsStd) (force : Bool) :
    ∀ (e : Elem) (s : TC) (o : Bool), (o = true → s.2 = true) → TCExt std force ([e], o) (mergeOne false s e)
  | .prim p, s, o, ho => by rw [mergeOne]; exact TCExt_singleton_tcAppend std force s _ o ho
  | .cls b, s, o, ho => by
    rw [mergeOne]
    split
    next a _ => exact TCExt_sole_cls (mergeD_right std force b a) ho
    next => exact TCExt_singleton_tcAppend std force s _ o ho
  | .lst b, s, o, ho => by
    rw [mergeOne]
    split
    next a _ => exact TCExt_sole_lst (mergeL_right std force b a) ho
    next => exact TCExt_singleton_tcAppend std force s _ o ho
termination_by structural x => x
theorem mergeD_right (std : GsStd) (force : Bool) :
    ∀ (b a : DGen), FieldsExt std force b.fields (mergeD false a b).fields
  | .mk _ _ bfs, a => by
    rw [mergeD]
    exact mergeFields_right std force bfs a.fields
termination_by structural x => x
theorem mergeFields_right (std : GsStd) (force : Bool) :
    ∀ (bfs : List (S × List Elem × Bool)) (afs : Fields), FieldsExt std force bfs (mergeFields false afs bfs)
  | [], _ => fun _ _ h => nomatch h
  | (k, oes, oopt) :: rest, afs => by
    rw [mergeFields]
    -- this step leaves `k` in the accumulator with a container that extends `(oes, oopt)`; the remaining merges only
    -- extend it (`mergeFields_left`)
    cases hl : fieldsLookup k afs with
    | none =>
      exact FieldsExt_cons (by simp [fieldsLookup_append, hl, fieldsLookup]) (TCExt.refl _ _ _)
        (mergeFields_left std force false rest _) (mergeFields_right std force rest _)
    | some tc =>
      exact FieldsExt_cons (by rw [fieldsLookup_set, if_pos rfl]) (mergeTC_right std force oes oopt tc)
        (mergeFields_left std force false rest _) (mergeFields_right std force rest _)
termination_by structural x => x
theorem mergeL_right (std : GsStd) (force : Bool) :
    ∀ (b a : LGen), ElemsExt std force b.elems (mergeL false a b).elems
  | .mk _ _ _ bes _, a => by
    rw [mergeL]
    exact mergeLElems_right std force bes a.elems
termination_by structural x => x
theorem mergeLElems_right (std : GsStd) (force : Bool) :
    ∀ (bes aes : List Elem), ElemsExt std force bes (mergeLElems false aes bes)
  | [], aes => ElemsExt_of_sub (fun _ h => nomatch h) (fun _ h => nomatch h)
  | t :: rest, aes => by
    rw [mergeLElems]
    intro x hx
    cases x using JVal.kindCases with
    | dict kvs =>
      cases t with
      | cls b =>
        obtain ⟨m, hm, hc⟩ := hx
        cases hm
        exact mergeLElems_left std force false rest _ _ (mergeLStep_right std force (.cls b) aes kvs b rfl hc)
      -- `firstCls` skips a head that is no class, so `hx` unfolds to the same statement about `rest`
      | prim _ | lst _ => exact mergeLElems_right std force rest _ _ hx
    | list ys =>
      obtain ⟨l, hl, hc⟩ := hx
      rcases List.mem_cons.mp hl with rfl | h
      · refine mergeLElems_left std force false rest _ _ ⟨l, ?_, hc⟩
        rw [mergeLStep]
        exact tcAppend_false_mem (aes, false) _
      · exact mergeLElems_right std force rest _ _ ⟨l, h, hc⟩
    | scalar _ h =>
      rw [CoversElem_scalar std force _ h] at hx ⊢
      exact ScalarCov_sub (fun p hp => by rw [← mergeLElems]; exact mergeLElems_prim_right false _ aes p hp) _ hx
termination_by structural x => x
/-- Stated for an arbitrary `e` with `e = .cls b` as a hypothesis: the block recurses structurally on `e`, like the other
members on their right operand. -/
theorem mergeLStep_right (std : GsStd) (force : Bool) :
    ∀ (e : Elem) (aes : List Elem) (kvs : List (S × JVal)) (b : DGen), e = .cls b → CoversObj std force b.fields kvs →
      CoversElem std force (mergeLStep false aes e) (.dict kvs)
  | .cls b0, aes, kvs, b, he, hc => by
    cases he
    rw [mergeLStep]
    split
    next m hm => exact ⟨_, firstCls_replace _ aes m hm, CoversObj_ext (mergeD_right std force b0 m) kvs hc⟩
    next hm =>
      refine ⟨b0, ?_, hc⟩
      rw [tcAppend_false (.cls b0) (fun _ => nofun)]
      simp [firstCls_append, hm, firstCls]
  | .prim _, _, _, _, he, _ => by cases he
  | .lst _, _, _, _, he, _ => by cases he
termination_by structural x => x
end

theorem ElemsExt_tcAppendAll {std : GsStd} {force : Bool} (dedup : Bool) : ∀ (xs : List Elem) (tc : TC),
    ElemsExt std force tc.1 (tcAppendAll dedup tc xs).1
  | [], tc => by rw [tcAppendAll]; exact ElemsExt.refl _ _ _
  | e :: r, tc => by
    rw [tcAppendAll]
    exact (ElemsExt_tcAppend dedup tc.1 tc.2 e).trans (ElemsExt_tcAppendAll dedup r _)

theorem TCExt_tcAppendScalar (std : GsStd) (force : Bool) (tc : TC) (sp : Option (List Prim)) :
    TCExt std force tc (tcAppendScalar tc sp) := by
  cases sp with
  | none => exact TCExt_of_sub (fun _ h => h) (fun _ => rfl)
  | some ps => exact TCExt_tcAppendAll std force true tc _

theorem ElemsExt_tcAppendScalar (std : GsStd) (force : Bool) (tc : TC) (sp : Option (List Prim)) :
    ElemsExt std force tc.1 (tcAppendScalar tc sp).1 := by
  cases sp with
  | none => exact ElemsExt.refl _ _ _
  | some ps => exact ElemsExt_tcAppendAll true _ tc

theorem ScalarCov_tcAppendScalar (std : GsStd) (force : Bool) (tc : TC) (v : JVal) :
    ScalarCov std force (tcAppendScalar tc (scalarPrims std force v)).1 v := by
  intro ps hps p hp
  rw [hps]
  exact tcAppendAll_mem true _ (tcAppend_prim_mem true · p) _ tc (List.mem_map_of_mem hp)

theorem CoversV_tcAppendScalar (std : GsStd) (force : Bool) (tc : TC) (v : JVal) (hv : v.IsScalar) :
    CoversV std force (tcAppendScalar tc (scalarPrims std force v)) v :=
  (CoversV_scalar std force _ hv).mpr ⟨fun h => by subst h; rfl, ScalarCov_tcAppendScalar std force tc v⟩

theorem CoversElem_tcAppendScalar (std : GsStd) (force : Bool) (tc : TC) (v : JVal) (hv : v.IsScalar) :
    CoversElem std force (tcAppendScalar tc (scalarPrims std force v)).1 v :=
  (CoversElem_scalar std force _ hv).mpr (ScalarCov_tcAppendScalar std force tc v)

theorem fieldsLookup_update (k : S) (f : TC → TC) (fs : Fields) :
    fieldsLookup k (fieldsUpdate k f fs) = some (f ((fieldsLookup k fs).getD ([], false))) := by
  rw [fieldsUpdate, fieldsLookup_set, if_pos rfl]

theorem FieldsExt_update {std : GsStd} {force : Bool} (k : S) (f : TC → TC) (fs : Fields)
    (hf : ∀ tc, TCExt std force tc (f tc)) : FieldsExt std force fs (fieldsUpdate k f fs) := by
  unfold fieldsUpdate
  cases hl : fieldsLookup k fs with
  | none =>
    rw [fieldsSet_of_none k _ fs hl]
    exact FieldsExt_append fs _
  | some tc => exact FieldsExt_set k tc _ fs hl (hf tc)

theorem inferFields_step {std : GsStd} {force : Bool} {acc res : Fields} {k : S} {v : JVal} {rest : List (S × JVal)}
    (f : TC → TC) (hf : ∀ tc, TCExt std force tc (f tc)) (hv : ∀ tc, CoversV std force (f tc) v)
    (hrest : FieldsExt std force (fieldsUpdate (toSnake k) f acc) res ∧ CoversObj std force res rest) :
    FieldsExt std force acc res ∧ CoversObj std force res ((k, v) :: rest) := by
  obtain ⟨hext, hcov⟩ := hrest
  obtain ⟨tc, hl, e⟩ := hext _ _ (fieldsLookup_update _ f acc)
  exact ⟨(FieldsExt_update _ f acc hf).trans hext, ⟨tc, hl, e v (hv _)⟩, hcov⟩

theorem inferElems_step {std : GsStd} {force : Bool} {acc acc' res : List Elem} {x : JVal} {rest : List JVal}
    (h0 : ElemsExt std force acc acc') (h1 : CoversElem std force acc' x)
    (hrest : ElemsExt std force acc' res ∧ CoversElems std force res rest) :
    ElemsExt std force acc res ∧ CoversElems std force res (x :: rest) :=
  ⟨h0.trans hrest.1, hrest.1 x h1, hrest.2⟩

theorem infer_covers (std : GsStd) (fl : Flags) (hd : fl.dedupByEq = false) :
    (∀ lvl kvs acc, FieldsExt std fl.forceStrings acc (inferFields std fl lvl kvs acc) ∧
      CoversObj std fl.forceStrings (inferFields std fl lvl kvs acc) kvs) ∧
    (∀ name isRoot lvl xs acc, ElemsExt std fl.forceStrings acc.1 (inferElems std fl name isRoot lvl xs acc).1 ∧
      CoversElems std fl.forceStrings (inferElems std fl name isRoot lvl xs acc).1 xs) := by
  have hmem : ∀ (tc : TC) (e : Elem), e ∈ (tcAppend fl.dedupByEq tc e).1 := by rw [hd]; exact tcAppend_false_mem
  apply infer_induct std fl (IF := fun _ kvs acc r => FieldsExt std fl.forceStrings acc r ∧ CoversObj std fl.forceStrings r kvs)
    (IE := fun _ _ _ xs acc r => ElemsExt std fl.forceStrings acc.1 r.1 ∧ CoversElems std fl.forceStrings r.1 xs)
  case f_nil => exact fun _ acc => ⟨FieldsExt.refl _ _ acc, trivial⟩
  case e_nil => exact fun _ _ _ acc => ⟨ElemsExt.refl _ _ acc.1, trivial⟩
  case f_dict =>
    exact fun lvl k kvs rest acc fs r ih1 ih2 => inferFields_step _ (fun tc => TCExt_tcAppend std _ _ tc _)
      (fun tc => ⟨.mk (pascal k) false fs, hmem tc _, ih1.2⟩) ih2
  case f_list =>
    exact fun lvl k xs rest acc tc r ih1 ih2 => inferFields_step _ (fun t => TCExt_tcAppend std _ _ t _)
      (fun t => ⟨.mk xs k (lgName std (some k) (lvl + 1)) tc.1 tc.2, hmem t _, ih1.2⟩) ih2
  case f_scalar =>
    exact fun _ k v rest acc r hv ih => inferFields_step _ (fun tc => TCExt_tcAppendScalar std _ tc _)
      (fun tc => CoversV_tcAppendScalar std _ tc v hv) ih
  case e_dict =>
    intro name isRoot lvl kvs rest acc fs r ih1 ih2
    rw [hd] at ih2
    exact inferElems_step (mergeLStep_left std _ false _ acc.1)
      (mergeLStep_right std _ _ acc.1 kvs (.mk (pascal name) isRoot fs) rfl ih1.2) ih2
  case e_list =>
    exact fun name isRoot lvl ys rest acc tc r ih1 ih2 => inferElems_step (ElemsExt_tcAppend _ acc.1 acc.2 _)
      ⟨.mk ys "container".toList (lgName std none (lvl + 1)) tc.1 tc.2, hmem acc _, ih1.2⟩ ih2
  case e_scalar =>
    exact fun _ _ _ v rest acc r hv ih => inferElems_step (ElemsExt_tcAppendScalar std _ acc _)
      (CoversElem_tcAppendScalar std _ acc v hv) ih

theorem mergeFields_keys (dedup : Bool) : ∀ (bfs : List (S × List Elem × Bool)) (afs : Fields) (k : S),
    (fieldsLookup k (mergeFields dedup afs bfs)).isSome = ((fieldsLookup k afs).isSome || (fieldsLookup k bfs).isSome)
  | [], afs, k => by simp [mergeFields, fieldsLookup]
  | (k0, oes, oopt) :: rest, afs, k => by
    rw [mergeFields, mergeFields_keys dedup rest]
    cases hl : fieldsLookup k0 afs with
    | some tc => by_cases hk : k0 = k <;> simp [fieldsLookup_set, fieldsLookup, hk]
    | none => by_cases hk : k0 = k <;> simp [fieldsLookup_append, fieldsLookup, hk]
end DW.Gs
