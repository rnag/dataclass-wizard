/-
C08 (object paths): a parse / print round trip for `split_object_path`.

A small token grammar (`Tok`, `PTok`) is rendered to text (`render`) and the tokenizer model
`DW.ObjPath.splitObjectPath` is shown to give back exactly the denotations of the tokens
(`split_render`), by induction over the token list.
-/
import DW.Model.ObjPath

namespace DW.C08Path
open DW.Str DW.ObjPath

/-- One path component, as written in the source text. -/
inductive Tok
  /-- bare identifier -/
  | bare (s : S)
  /-- `true` / `false` (`cap = false`) or `True` / `False` (`cap = true`) -/
  | bool (b : Bool) (cap : Bool)
  /-- optional `-` then the decimal digits `ds` -/
  | int (neg : Bool) (ds : S)
  /-- `q s' q` where `s'` is `s` with every occurrence of `q` escaped as `\q` -/
  | quoted (q : Char) (s : S)
  deriving Repr, DecidableEq

/-- A token with its separator style: `bracket = false` is rendered `.body`, `bracket = true` is
rendered `[body]`. -/
structure PTok where
  tok : Tok
  bracket : Bool
  deriving Repr, DecidableEq

/-- the four words `split_object_path` reads as a bool -/
def boolWords : List S := ["True".toList, "true".toList, "False".toList, "false".toList]

def boolWord (b cap : Bool) : S :=
  match b, cap with
  | true, false => "true".toList
  | true, true => "True".toList
  | false, false => "false".toList
  | false, true => "False".toList

/-- a character that is none of the separators `.`, `[`, `]` -/
def NoSep (c : Char) : Prop := c ≠ '.' ∧ c ≠ '[' ∧ c ≠ ']'

/-- a character that can start a bare identifier: no quote, no sign, no digit -/
def FirstOk (c : Char) : Prop := c ≠ '"' ∧ c ≠ '\'' ∧ c ≠ '+' ∧ c ≠ '-' ∧ isDig c = false

instance (c : Char) : Decidable (NoSep c) := by unfold NoSep; infer_instance
instance (c : Char) : Decidable (FirstOk c) := by unfold FirstOk; infer_instance

/-- Well-formed tokens.
* `bare s`: `s` is non-empty, contains no `.`, `[`, `]`, does not start with a quote, a sign or a
  digit, and is not one of the four bool words;
* `int _ ds`: `ds` is a non-empty string of ASCII digits;
* `quoted q s`: `q` is `"` or `'`, `s` is non-empty and contains no backslash (it MAY contain
  `.`, `[`, `]`, the other quote and `q` itself, which is escaped on rendering; an empty literal would leave the
  tokenizer's buffer empty, and `flush` then emits no component);
* `bool`: always. -/
def Tok.WF : Tok → Prop
  | .bare s => s ≠ [] ∧ (∀ c ∈ s, NoSep c) ∧ (∀ c ∈ s.head?, FirstOk c) ∧ s ∉ boolWords
  | .bool _ _ => True
  | .int _ ds => ds ≠ [] ∧ ∀ c ∈ ds, isDig c = true
  | .quoted q s => (q = '"' ∨ q = '\'') ∧ s ≠ [] ∧ '\\' ∉ s

instance : (t : Tok) → Decidable t.WF
  | .bare _ => by unfold Tok.WF; infer_instance
  | .bool _ _ => by unfold Tok.WF; infer_instance
  | .int _ _ => by unfold Tok.WF; infer_instance
  | .quoted _ _ => by unfold Tok.WF; infer_instance

/-- `s` with every occurrence of `q` escaped as `\q` -/
def escape (q : Char) : S → S
  | [] => []
  | c :: r => if c = q then '\\' :: q :: escape q r else c :: escape q r

/-- the text of a token between the separators -/
def Tok.body : Tok → S
  | .bare s => s
  | .bool b cap => boolWord b cap
  | .int neg ds => if neg then '-' :: ds else ds
  | .quoted q s => q :: (escape q s ++ [q])

def PTok.render (t : PTok) : S :=
  if t.bracket then '[' :: (t.tok.body ++ [']']) else '.' :: t.tok.body

def render : List PTok → S
  | [] => []
  | t :: r => t.render ++ render r

def Tok.denote : Tok → Comp
  | .bare s => .str s
  | .bool b _ => .bool b
  | .int neg ds => .int (if neg then - Int.ofNat (natOfDigits ds) else Int.ofNat (natOfDigits ds))
  | .quoted _ s => .str s

example : (Tok.bare "ab".toList).WF := by decide +kernel
example : ¬ (Tok.bare "true".toList).WF := by decide +kernel
example : (Tok.quoted '"' "a.b]".toList).WF := by decide +kernel

/-- between components: nothing pending, all flags reset -/
def Clean (R : List Comp) (b : Bool) : PState :=
  { res := R, s := [], startNew := true, inBraces := b }

/-- a pending token `acc` (reversed) outside a literal -/
def PendS (R : List Comp) (acc : S) (num lit b : Bool) : PState :=
  { res := R, s := acc, startNew := false, inBraces := b, possibleNumber := num,
    parsedStringLiteral := lit }

/-- inside a string literal opened by `q` -/
def Lit (R : List Comp) (acc : S) (q : Char) (b : Bool) : PState :=
  { res := R, s := acc, startNew := false, inLiteral := true, quoteChar := some q, inBraces := b }

/-- what `flush` appends for a pending token -/
def compOf (acc : S) (num lit : Bool) : Comp :=
  if num then classifyNumber acc.reverse
  else if lit then .str acc.reverse
  else classifyPlain acc.reverse

theorem init_eq_Clean : ({} : PState) = Clean [] false := rfl

theorem step_Clean_dot (R : List Comp) : step (Clean R false) '.' = Clean R false := by
  simp [step, flush, Clean]

theorem step_Clean_lbr (R : List Comp) (b : Bool) : step (Clean R b) '[' = Clean R true := by
  simp [step, flush, Clean]

theorem step_Lit (R : List Comp) (acc : S) (q : Char) (b : Bool) (c : Char)
    (hc : c ≠ '\\') (hq : c ≠ q) : step (Lit R acc q b) c = Lit R (c :: acc) q b := by
  simp [step, Lit, hc, hq]

theorem step_Lit_esc (R : List Comp) (acc : S) (q : Char) (b : Bool)
    (hq : q = '"' ∨ q = '\'') :
    step (step (Lit R acc q b) '\\') q = Lit R (q :: acc) q b := by
  rcases hq with rfl | rfl <;> simp [step, Lit]

theorem step_Lit_open (R : List Comp) (q : Char) (b : Bool) (hq : q = '"' ∨ q = '\'') :
    step (Clean R b) q = Lit R [] q b := by
  rcases hq with rfl | rfl <;> simp [step, Lit, Clean]

theorem step_Lit_close (R : List Comp) (acc : S) (q : Char) (b : Bool)
    (hq : q = '"' ∨ q = '\'') :
    step (Lit R acc q b) q = PendS R acc false true b := by
  rcases hq with rfl | rfl <;> simp [step, Lit, PendS]

theorem step_Clean_first (R : List Comp) (b : Bool) (c : Char) (hs : NoSep c) (hf : FirstOk c) :
    step (Clean R b) c = PendS R [c] false false b := by
  obtain ⟨h1, h2, _⟩ := hs
  obtain ⟨h4, h5, h6, h7, h8⟩ := hf
  simp [step, Clean, PendS, h1, h2, h4, h5, h6, h7, h8]

theorem step_PendS (R : List Comp) (acc : S) (num lit b : Bool) (c : Char) (hs : NoSep c) :
    step (PendS R acc num lit b) c = PendS R (c :: acc) num lit b := by
  obtain ⟨h1, h2, h3⟩ := hs
  simp [step, PendS, h1, h2, h3]

theorem step_PendS_rbr (R : List Comp) (acc : S) (num lit b : Bool) :
    step (PendS R acc num lit b) ']' = PendS R acc num lit false := by
  simp [step, PendS]

/-- A state from which a separator starts a fresh component on top of the result `R'`:
either the initial state, or a state with a pending well-formed token outside brackets. -/
structure Ready (σ : PState) (R' : List Comp) : Prop where
  dot : step σ '.' = Clean R' false
  lbr : step σ '[' = Clean R' true
  fin : (flush σ).res = R'

theorem ready_init : Ready ({} : PState) [] :=
  ⟨step_Clean_dot [], step_Clean_lbr [] false, rfl⟩

theorem ready_PendS (R : List Comp) (acc : S) (num lit : Bool) (h : acc ≠ []) (hnl : (num && lit) = false) :
    Ready (PendS R acc num lit false) (compOf acc num lit :: R) := by
  refine ⟨?_, ?_, ?_⟩ <;> cases num <;> cases lit <;> simp [step, flush, PendS, Clean, compOf, h] at hnl ⊢

theorem isDig_ne {c d : Char} (h : isDig c = true) (hd : isDig d = false) : c ≠ d := by
  intro e; subst e; simp [hd] at h

theorem isDig_noSep {c : Char} (h : isDig c = true) : NoSep c :=
  ⟨isDig_ne h (by decide), isDig_ne h (by decide), isDig_ne h (by decide)⟩

theorem isDig_not_space {c : Char} (h : isDig c = true) : isPySpace c = false := by
  simp [isDig, Char.isDigit, UInt32.le_iff_toNat_le] at h
  simp [isPySpace]
  omega

theorem step_Clean_num (R : List Comp) (b : Bool) (c : Char) (h : c = '-' ∨ isDig c = true) :
    step (Clean R b) c = PendS R [c] true false b := by
  rcases h with rfl | h
  · simp [step, Clean, PendS]
  · obtain ⟨h1, h2, _⟩ := isDig_noSep h
    have h3 : c ≠ '"' := isDig_ne h (by decide)
    have h4 : c ≠ '\'' := isDig_ne h (by decide)
    simp [step, Clean, PendS, h1, h2, h3, h4, h]

theorem fold_PendS (R : List Comp) (num lit b : Bool) (s : S) (hs : ∀ c ∈ s, NoSep c) :
    ∀ acc, s.foldl step (PendS R acc num lit b) = PendS R (s.reverse ++ acc) num lit b := by
  induction s with
  | nil => intro acc; rfl
  | cons c r ih =>
    intro acc
    obtain ⟨hc, hr⟩ := List.forall_mem_cons.1 hs
    rw [List.foldl_cons, step_PendS _ _ _ _ _ _ hc, ih hr]
    simp

theorem fold_num (R : List Comp) (b : Bool) (c : Char) (r : S) (hc : c = '-' ∨ isDig c = true)
    (hr : ∀ d ∈ r, isDig d = true) :
    (c :: r).foldl step (Clean R b) = PendS R (c :: r).reverse true false b := by
  rw [List.foldl_cons, step_Clean_num _ _ _ hc, fold_PendS _ _ _ _ _ (fun d hd => isDig_noSep (hr d hd))]
  simp

theorem fold_escape (R : List Comp) (q : Char) (b : Bool) (hq : q = '"' ∨ q = '\'') (s : S)
    (hb : '\\' ∉ s) :
    ∀ acc, (escape q s).foldl step (Lit R acc q b) = Lit R (s.reverse ++ acc) q b := by
  induction s with
  | nil => intro acc; rfl
  | cons c r ih =>
    intro acc
    obtain ⟨hc, hr⟩ := List.ne_and_not_mem_of_not_mem_cons hb
    by_cases hcq : c = q
    · subst hcq
      simp only [escape, ↓reduceIte, List.foldl_cons]
      rw [step_Lit_esc _ _ _ _ hq, ih hr]
      simp
    · simp only [escape, hcq, ↓reduceIte, List.foldl_cons]
      rw [step_Lit _ _ _ _ _ hc.symm hcq, ih hr]
      simp

/-- the *content* of a token: what ends up in the tokenizer's buffer -/
def Tok.content : Tok → S
  | .bare s => s
  | .bool b cap => boolWord b cap
  | .int neg ds => if neg then '-' :: ds else ds
  | .quoted _ s => s

/-- does the tokenizer flag the token as a possible number? -/
def Tok.isNum : Tok → Bool
  | .int _ _ => true
  | _ => false

/-- does the tokenizer flag the token as a parsed string literal? -/
def Tok.isLit : Tok → Bool
  | .quoted _ _ => true
  | _ => false

/-- the state after reading the body of `t`: the token is pending -/
def Pend (t : Tok) (R : List Comp) (b : Bool) : PState :=
  PendS R t.content.reverse t.isNum t.isLit b

theorem fold_plain (R : List Comp) (b : Bool) (s : S) (hs : ∀ c ∈ s, NoSep c)
    (hf : ∀ c ∈ s.head?, FirstOk c) (hne : s ≠ []) :
    s.foldl step (Clean R b) = PendS R s.reverse false false b := by
  cases s with
  | nil => exact absurd rfl hne
  | cons c r =>
    obtain ⟨hc, hr⟩ := List.forall_mem_cons.1 hs
    have hfc : FirstOk c := hf c (by simp)
    rw [List.foldl_cons, step_Clean_first _ _ _ hc hfc, fold_PendS _ _ _ _ _ hr]
    simp

theorem boolWord_plain (b cap : Bool) :
    (∀ c ∈ boolWord b cap, NoSep c) ∧ (∀ c ∈ (boolWord b cap).head?, FirstOk c) ∧
      boolWord b cap ≠ [] := by
  revert b cap
  decide +kernel

theorem fold_body (t : Tok) (h : t.WF) (R : List Comp) (b : Bool) :
    t.body.foldl step (Clean R b) = Pend t R b := by
  cases t with
  | bare s =>
    obtain ⟨hne, hs, hf, _⟩ := h
    exact fold_plain R b s hs hf hne
  | bool v cap =>
    obtain ⟨hs, hf, hne⟩ := boolWord_plain v cap
    exact fold_plain R b _ hs hf hne
  | int neg ds =>
    obtain ⟨hne, hd⟩ := h
    cases neg with
    | true => exact fold_num R b '-' ds (Or.inl rfl) hd
    | false =>
      cases ds with
      | nil => exact absurd rfl hne
      | cons c r =>
        obtain ⟨hc, hr⟩ := List.forall_mem_cons.1 hd
        exact fold_num R b c r (Or.inr hc) hr
  | quoted q s =>
    obtain ⟨hq, _, hb⟩ := h
    simp only [Tok.body, List.foldl_cons, List.foldl_append, List.foldl_nil, Pend, Tok.content,
      Tok.isNum, Tok.isLit]
    rw [step_Lit_open _ _ _ hq, fold_escape _ _ _ hq _ hb, step_Lit_close _ _ _ _ hq]
    simp

theorem dropWhile_head_false {p : Char → Bool} (l : S) (h : ∀ c ∈ l.head?, p c = false) :
    l.dropWhile p = l := by
  cases l with
  | nil => rfl
  | cons c r => simp [List.dropWhile, h c (by simp)]

theorem stripSpace_id (s : S) (h : ∀ c ∈ s, isPySpace c = false) : stripSpace s = s := by
  unfold stripSpace
  rw [dropWhile_head_false s (fun c hc => h c (List.mem_of_mem_head? hc))]
  rw [dropWhile_head_false s.reverse
    (fun c hc => h c (List.mem_reverse.mp (List.mem_of_mem_head? hc)))]
  simp

theorem digitPartAux_true (ds : S) (hd : ∀ c ∈ ds, isDig c = true) :
    digitPartAux true ds = some ds := by
  induction ds with
  | nil => simp [digitPartAux]
  | cons c r ih =>
    obtain ⟨hc, hr⟩ := List.forall_mem_cons.1 hd
    simp [digitPartAux, hc, ih hr]

theorem digitPart_digits (ds : S) (hne : ds ≠ []) (hd : ∀ c ∈ ds, isDig c = true) :
    digitPart ds = some ds := by
  cases ds with
  | nil => exact absurd rfl hne
  | cons c r =>
    obtain ⟨hc, hr⟩ := List.forall_mem_cons.1 hd
    simp [digitPart, digitPartAux, hc, digitPartAux_true r hr]

theorem pyIntOfStr_neg (ds : S) (hne : ds ≠ []) (hd : ∀ c ∈ ds, isDig c = true) :
    pyIntOfStr ('-' :: ds) = some (- Int.ofNat (natOfDigits ds)) := by
  have hsp : ∀ c ∈ '-' :: ds, isPySpace c = false := by
    intro c hc
    rcases List.mem_cons.mp hc with rfl | hc
    · decide
    · exact isDig_not_space (hd c hc)
  simp [pyIntOfStr, stripSpace_id _ hsp, digitPart_digits ds hne hd]

theorem pyIntOfStr_pos (ds : S) (hne : ds ≠ []) (hd : ∀ c ∈ ds, isDig c = true) :
    pyIntOfStr ds = some (Int.ofNat (natOfDigits ds)) := by
  have hsp : ∀ c ∈ ds, isPySpace c = false := fun c hc => isDig_not_space (hd c hc)
  cases ds with
  | nil => exact absurd rfl hne
  | cons c r =>
    have hc : isDig c = true := hd c (by simp)
    have h1 : c ≠ '-' := isDig_ne hc (by decide)
    have h2 : c ≠ '+' := isDig_ne hc (by decide)
    simp [pyIntOfStr, stripSpace_id _ hsp, digitPart_digits (c :: r) hne hd, h1, h2]

theorem classifyPlain_bare (s : S) (h : s ∉ boolWords) : classifyPlain s = .str s := by
  simp only [boolWords, List.mem_cons, List.not_mem_nil, or_false, not_or] at h
  simp only [classifyPlain, h, decide_false, Bool.or_self, Bool.false_eq_true, if_false]

theorem compOf_content (t : Tok) (h : t.WF) :
    compOf t.content.reverse t.isNum t.isLit = t.denote := by
  cases t with
  | bare s =>
    obtain ⟨_, _, _, hw⟩ := h
    simp [compOf, Tok.content, Tok.isNum, Tok.isLit, Tok.denote, classifyPlain_bare s hw]
  | bool v cap =>
    revert v cap
    decide +kernel
  | int neg ds =>
    obtain ⟨hne, hd⟩ := h
    cases neg with
    | true =>
      simp [compOf, Tok.content, Tok.isNum, Tok.denote, classifyNumber, pyIntOfStr_neg ds hne hd]
    | false =>
      simp [compOf, Tok.content, Tok.isNum, Tok.denote, classifyNumber, pyIntOfStr_pos ds hne hd]
  | quoted q s => simp [compOf, Tok.content, Tok.isNum, Tok.isLit, Tok.denote]

theorem content_ne_nil (t : Tok) (h : t.WF) : t.content ≠ [] := by
  cases t with
  | bare s => exact h.1
  | bool v cap => exact (boolWord_plain v cap).2.2
  | int neg ds => cases neg <;> simp [Tok.content, h.1]
  | quoted q s => exact h.2.1

theorem isNum_isLit (t : Tok) : (t.isNum && t.isLit) = false := by
  cases t <;> rfl

theorem ready_Pend (t : Tok) (h : t.WF) (R : List Comp) :
    Ready (Pend t R false) (t.denote :: R) :=
  compOf_content t h ▸ ready_PendS R _ _ _ (List.reverse_ne_nil_iff.2 (content_ne_nil t h)) (isNum_isLit t)

theorem fold_ptok (t : PTok) (h : t.tok.WF) (σ : PState) (R' : List Comp) (hσ : Ready σ R') :
    t.render.foldl step σ = Pend t.tok R' false := by
  obtain ⟨tok, br⟩ := t
  cases br with
  | false =>
    simp only [PTok.render, Bool.false_eq_true, ↓reduceIte, List.foldl_cons]
    rw [hσ.dot, fold_body tok h]
  | true =>
    simp only [PTok.render, ↓reduceIte, List.foldl_cons, List.foldl_append, List.foldl_nil]
    rw [hσ.lbr, fold_body tok h, Pend, step_PendS_rbr, Pend]

theorem fold_render (toks : List PTok) :
    ∀ (σ : PState) (R' : List Comp), Ready σ R' → (∀ t ∈ toks, t.tok.WF) →
      (flush ((render toks).foldl step σ)).res
        = (toks.map (fun t => t.tok.denote)).reverse ++ R' := by
  induction toks with
  | nil => intro σ R' hσ _; simpa [render] using hσ.fin
  | cons t rest ih =>
    intro σ R' hσ h
    obtain ⟨ht, hrest⟩ := List.forall_mem_cons.1 h
    rw [render, List.foldl_append, fold_ptok t ht σ R' hσ,
      ih _ _ (ready_Pend t.tok ht R') hrest]
    simp

theorem split_render (toks : List PTok) (h : ∀ t ∈ toks, t.tok.WF) :
    splitObjectPath (render toks) = toks.map (fun t => t.tok.denote) := by
  unfold splitObjectPath
  rw [fold_render toks _ _ ready_init h]
  simp

/-- `."true".true` : the string key `true` then the bool key `true` -/
example :
    splitObjectPath (render [⟨.quoted '"' "true".toList, false⟩, ⟨.bool true false, false⟩])
      = [.str "true".toList, .bool true] :=
  split_render _ (by decide)

/-- what the rendering looks like, escaping included -/
example :
    render [⟨.quoted '"' "a\"b".toList, true⟩, ⟨.bool true false, false⟩,
        ⟨.int true "12".toList, true⟩]
      = "[\"a\\\"b\"].true[-12]".toList := by decide +kernel

end DW.C08Path
