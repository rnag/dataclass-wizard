/-
The behavioural dump model (`dumpFields` of `DW/Model/Dump.lean`, on which the round-trip, JSON-safety and catch-all theorems rest)
is the realisation of what the generated code emits: closing the chain  generated text → its semantics → the dump model.
-/
import DW.Lemmas.GenDumpSem

namespace DW.GenDump
open DW

/-- apply `asdict` to what the emissions name: an entry becomes `(key, asdict(o.f))`, the catch-all emission the items of the mapping;
path and tag emissions are not part of the field loop of the class model (paths are outside it, the tag is `finishInst`) -/
def realise (std : Std) (ts : Bool) (cfg : Option MetaCfg) (vals : S → PyVal) : List Emit → Except DErr (List (DVal × DVal))
  | [] => pure []
  | .entry k f :: r => do
    let d ← dumpV std ts cfg (vals f)
    let more ← realise std ts cfg vals r
    pure ((DVal.str k, d) :: more)
  | .catchAll f :: r => do
    let here ← catchAllItems std ts cfg (vals f)
    let more ← realise std ts cfg vals r
    pure (here ++ more)
  | .path _ _ :: r => realise std ts cfg vals r
  | .tag _ _ :: r => realise std ts cfg vals r

theorem realise_append (std : Std) (ts : Bool) (cfg : Option MetaCfg) (vals : S → PyVal) (a b : List Emit) :
    realise std ts cfg vals (a ++ b) = (do
      let x ← realise std ts cfg vals a
      let y ← realise std ts cfg vals b
      pure (x ++ y)) := by
  induction a with
  | nil => simp only [List.nil_append, realise, pure_bind, bind_pure]
  | cons e r ih => cases e <;> simp only [List.cons_append, realise, ih, bind_assoc, pure_bind, List.append_assoc]

theorem realise_catchAll (std : Std) (ts : Bool) (cfg : Option MetaCfg) (vals : S → PyVal) (f : S) :
    realise std ts cfg vals [.catchAll f] = catchAllItems std ts cfg (vals f) := by
  simp only [realise, pure_bind, List.append_nil, bind_pure]

theorem realise_entry (std : Std) (ts : Bool) (cfg : Option MetaCfg) (vals : S → PyVal) (k f : S) :
    realise std ts cfg vals [.entry k f] = (do let d ← dumpV std ts cfg (vals f); pure [(DVal.str k, d)]) := by
  simp only [realise, pure_bind]

theorem fieldSkipped_of_ok (eff : MetaCfg) (args : DumpArgs) (fi : FieldInfo) (v : PyVal) (dt oc : Bool)
    (hd : defaultTest eff fi v = .ok dt) (ho : ownCond eff fi v = .ok oc) :
    fieldSkipped eff args fi v = .ok (excluded args fi || fi.dumpSkip || (skipDefaultsOn eff args && dt) || oc) := by
  unfold fieldSkipped
  rw [hd, ho]
  cases excluded args fi
  · cases skipDefaultsOn eff args <;> cases fi.dumpSkip <;> cases dt <;> rfl
  · rfl

theorem fieldHere_eq_realise (std : Std) (ts : Bool) (cfg : Option MetaCfg) (eff : MetaCfg) (args : DumpArgs)
    (vals : S → PyVal) (dtv ocv : FieldInfo → Bool) (fi : FieldInfo) (k : S)
    (hd : defaultTest eff fi (vals fi.name) = .ok (dtv fi)) (ho : ownCond eff fi (vals fi.name) = .ok (ocv fi))
    (hk : fi.isCatchAll = false → fi.dumpSkip = false → dumpKey eff fi = .ok k) :
    fieldHere std ts cfg eff args fi (vals fi.name) = realise std ts cfg vals (refEmitOf eff args dtv ocv vals (fi, k)) := by
  unfold refEmitOf refFieldEmit fieldHere
  cases hca : fi.isCatchAll
  · simp only [Bool.false_eq_true, if_false, plainHere]
    rw [fieldSkipped_of_ok eff args fi _ (dtv fi) (ocv fi) hd ho]
    cases hds : fi.dumpSkip
    · rw [hk hca hds, Bool.or_false]
      cases excluded args fi || (skipDefaultsOn eff args && dtv fi) || ocv fi
      · simp only [Bool.false_eq_true, if_false, realise_entry]
        rfl
      · rfl
    · cases excluded args fi <;> rfl
  · -- `realise` goes into the branches; the reference asks `isDefaultVal` first, the model last
    rw [if_pos rfl, if_pos rfl, apply_ite (realise std ts cfg vals), realise_catchAll, Bool.or_comm (isDefaultVal fi (vals fi.name)),
      catchAllHere, hd]
    cases excluded args fi
    · cases skipDefaultsOn eff args <;> rfl
    · rfl

/-- **the field loop of the dump model is the realisation of the generated code's emissions** (for the fields `fs` of a class whose
lookup by name finds each field's own description) -/
theorem dumpFields_eq_realise (std : Std) (ts : Bool) (cfg : Option MetaCfg) (eff : MetaCfg) (args : DumpArgs) (ci : ClassInfo)
    (vals : S → PyVal) (dtv ocv : FieldInfo → Bool) (fs : List (FieldInfo × S))
    (hfind : ∀ q ∈ fs, ci.fields.find? (fun f => f.name == q.1.name) = some q.1)
    (Hd : ∀ q ∈ fs, defaultTest eff q.1 (vals q.1.name) = .ok (dtv q.1))
    (Ho : ∀ q ∈ fs, ownCond eff q.1 (vals q.1.name) = .ok (ocv q.1))
    (Hk : ∀ q ∈ fs, q.1.isCatchAll = false → q.1.dumpSkip = false → dumpKey eff q.1 = .ok q.2) :
    dumpFields std ts cfg eff args ci (fs.map (fun q => (q.1.name, vals q.1.name))) =
      realise std ts cfg vals (fs.flatMap (refEmitOf eff args dtv ocv vals)) := by
  induction fs with
  | nil => exact dumpFields_nil ..
  | cons q r ih =>
    have ih := ih (fun q hq => hfind q (by simp [hq])) (fun q hq => Hd q (by simp [hq])) (fun q hq => Ho q (by simp [hq]))
      (fun q hq => Hk q (by simp [hq]))
    have hf : ci.fieldNamed q.1.name = q.1 := by simp [ClassInfo.fieldNamed, hfind q (by simp)]
    rw [List.map_cons, List.flatMap_cons, realise_append, ← ih, dumpFields_cons, hf,
      fieldHere_eq_realise std ts cfg eff args vals dtv ocv q.1 q.2 (Hd q (by simp)) (Ho q (by simp)) (Hk q (by simp))]

end DW.GenDump
