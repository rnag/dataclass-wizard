/-
The definite-assignment checker of `DW/Model/GenDump.lean`, for any scope and any statements: what a successful check leaves
assigned, and two ways to see that a block passes — every read is readable where the block starts (`EntryOk`), or the block is a
sequence of pieces each of which passes from the names its predecessors are known to assign (`Step`).
-/
import DW.Model.GenDump

namespace DW.GenDump
open DW.Names

def Reads (sc : Scope) (asg ns : List S) : Prop := ∀ n ∈ ns, sc.readOk asg n = true

theorem readsOk_iff_reads {sc : Scope} {asg ns : List S} : sc.readsOk asg ns = true ↔ Reads sc asg ns := List.all_eq_true

theorem readOk_of_mem (sc : Scope) {asg : List S} {n : S} (h : n ∈ asg) : sc.readOk asg n = true := by
  simp [Scope.readOk, h]

theorem readOk_outer (sc : Scope) (asg : List S) (n : S) (h1 : n ∉ sc.locals) (h2 : n ∈ sc.outer) :
    sc.readOk asg n = true := by
  simp [Scope.readOk, h1, h2]

theorem readOk_mono {sc : Scope} {a b : List S} {n : S} (hab : ∀ x ∈ a, x ∈ b) (h : sc.readOk a n = true) :
    sc.readOk b n = true := by
  simp only [Scope.readOk, Bool.or_eq_true, List.contains_eq_mem, decide_eq_true_eq] at h ⊢
  exact h.imp (hab n) id

theorem Reads.mono {sc : Scope} {a b ns : List S} (h : Reads sc a ns) (hab : ∀ x ∈ a, x ∈ b) : Reads sc b ns :=
  fun n hn => readOk_mono hab (h n hn)

@[simp] theorem Reads_nil {sc : Scope} {a : List S} : Reads sc a [] ↔ True := by simp [Reads]

@[simp] theorem Reads_cons {sc : Scope} {a ns : List S} {n : S} : Reads sc a (n :: ns) ↔ sc.readOk a n = true ∧ Reads sc a ns :=
  List.forall_mem_cons

@[simp] theorem Reads_append {sc : Scope} {a xs ys : List S} : Reads sc a (xs ++ ys) ↔ Reads sc a xs ∧ Reads sc a ys :=
  List.forall_mem_append

/-- `out` holds everything of `asg`, and beyond it only names of `w`: what a successful check from `asg` leaves, `w` being the names
the statements write.  The second half serves `Knows.within` (Lemmas/GenDumpPy.lean): "assigned ⊆ locals" survives a check. -/
def Within (asg w out : List S) : Prop := (∀ n ∈ asg, n ∈ out) ∧ ∀ n ∈ out, n ∈ asg ∨ n ∈ w

theorem Within.refl {asg w : List S} : Within asg w asg := ⟨fun _ h => h, fun _ h => Or.inl h⟩

theorem Within.trans {a b c w1 w2 : List S} (h1 : Within a w1 b) (h2 : Within b w2 c) : Within a (w1 ++ w2) c :=
  ⟨fun n hn => h2.1 n (h1.1 n hn), fun n hn => by
    rcases h2.2 n hn with h | h
    · exact (h1.2 n h).imp id (List.mem_append_left _)
    · exact Or.inr (List.mem_append_right _ h)⟩

theorem checkSimples_within (sc : Scope) (ps : List Simple) (asg out : List S) (h : checkSimples sc asg ps = some out) :
    Within asg (ps.flatMap Simple.writes) out := by
  induction ps generalizing asg with
  | nil => cases h; exact Within.refl
  | cons s r ih =>
    simp only [checkSimples, Option.ite_none_right_eq_some] at h
    have hs : Within asg s.writes (s.writes ++ asg) :=
      ⟨fun _ hn => List.mem_append_right _ hn, fun _ hn => (List.mem_append.1 hn).symm⟩
    rw [List.flatMap_cons]
    exact hs.trans (ih _ h.2)

theorem L1.check_within {sc : Scope} {asg out : List S} : ∀ {x : L1}, x.check sc asg = some out → Within asg x.writes out
  | .line l, h => checkSimples_within sc l.parts asg out h
  | .for_ ts it body, h => by
    -- a `for` that passes leaves `asg` as it was
    simp only [L1.check, Option.ite_none_right_eq_some] at h
    obtain ⟨-, h⟩ := h
    split at h
    · cases h; exact Within.refl
    · cases h

theorem checkL1s_within (sc : Scope) (xs : List L1) (asg out : List S) (h : checkL1s sc asg xs = some out) :
    Within asg (xs.flatMap L1.writes) out := by
  induction xs generalizing asg with
  | nil => cases h; exact Within.refl
  | cons x r ih =>
    simp only [checkL1s] at h
    split at h
    · next a ha => rw [List.flatMap_cons]; exact (L1.check_within ha).trans (ih a h)
    · cases h

theorem L2.check_within {sc : Scope} {asg out : List S} : ∀ {x : L2}, x.check sc asg = some out → Within asg x.writes out
  | .s _, h => L1.check_within h
  | .if_ c thn els, h => by
    simp only [L2.check, Option.ite_none_right_eq_some] at h
    obtain ⟨-, h⟩ := h
    split at h
    · next a b ha hb =>
      cases h
      have h1 := checkL1s_within sc thn asg a ha
      have h2 : ∀ n ∈ asg, n ∈ b := by
        cases els with
        | none => cases hb; exact fun _ hn => hn
        | some e => exact (checkL1s_within sc e asg b hb).1
      exact ⟨fun n hn => by simp [List.mem_filter, h1.1 n hn, h2 n hn],
        fun n hn => (h1.2 n (List.mem_filter.1 hn).1).imp_right (List.mem_append_left _)⟩
    · cases h

theorem checkL2s_within (sc : Scope) (xs : List L2) (asg out : List S) (h : checkL2s sc asg xs = some out) :
    Within asg (xs.flatMap L2.writes) out := by
  induction xs generalizing asg with
  | nil => cases h; exact Within.refl
  | cons x r ih =>
    simp only [checkL2s] at h
    split at h
    · next a ha => rw [List.flatMap_cons]; exact (L2.check_within ha).trans (ih a h)
    · cases h

theorem checkL2s_grow (sc : Scope) : ∀ (xs : List L2) (asg out : List S),
    checkL2s sc asg xs = some out → ∀ n ∈ asg, n ∈ out :=
  fun xs asg out h => (checkL2s_within sc xs asg out h).1

theorem checkSimples_of_reads (sc : Scope) (ps : List Simple) (asg : List S) (h : Reads sc asg (ps.flatMap Simple.reads)) :
    ∃ out, checkSimples sc asg ps = some out ∧ ∀ n, n ∈ out ↔ n ∈ ps.flatMap Simple.writes ∨ n ∈ asg := by
  induction ps generalizing asg with
  | nil => exact ⟨asg, rfl, by simp⟩
  | cons s r ih =>
    rw [List.flatMap_cons, Reads_append] at h
    obtain ⟨out, ho, hm⟩ := ih (s.writes ++ asg) (h.2.mono fun _ hx => List.mem_append_right _ hx)
    refine ⟨out, by simp only [checkSimples, readsOk_iff_reads.2 h.1, if_true, ho], fun n => ?_⟩
    rw [hm, List.flatMap_cons, List.mem_append, List.mem_append, or_left_comm, or_assoc]

theorem checkL0s_of_reads (sc : Scope) (ls : List L0) (asg : List S) (h : Reads sc asg (ls.flatMap L0.allReads)) :
    (checkL0s sc asg ls).isSome = true := by
  induction ls generalizing asg with
  | nil => rfl
  | cons l r ih =>
    rw [List.flatMap_cons, Reads_append] at h
    obtain ⟨out, ho, hm⟩ := checkSimples_of_reads sc l.parts asg h.1
    simp only [checkL0s, L0.check, ho]
    exact ih out (h.2.mono fun n hn => (hm n).2 (Or.inr hn))

/-- `x` reads only what is readable where it starts; the targets of a `for` count inside its body.  Sufficient for the check to
pass (`L2.check_of_entryOk`), not necessary: a statement may also read what an earlier statement of the same block assigns. -/
def L1.EntryOk (sc : Scope) (asg : List S) : L1 → Prop
  | .line l => Reads sc asg l.allReads
  | .for_ ts it body => Reads sc asg it.reads ∧ Reads sc (ts ++ asg) (body.flatMap L0.allReads)

def L2.EntryOk (sc : Scope) (asg : List S) : L2 → Prop
  | .s x => x.EntryOk sc asg
  | .if_ c thn els => Reads sc asg c.reads ∧ (∀ x ∈ thn, x.EntryOk sc asg) ∧ ∀ x ∈ els.getD [], x.EntryOk sc asg

theorem entryOk_line {sc : Scope} {asg : List S} {sep : S} {ps : List Simple} :
    (L2.s (.line { parts := ps, sep := sep })).EntryOk sc asg ↔ Reads sc asg (ps.flatMap Simple.reads) := Iff.rfl

theorem entryOk_if_line {sc : Scope} {asg : List S} {c : Expr} {s : Simple} :
    (L2.if_ c [.line { parts := [s] }] none).EntryOk sc asg ↔ Reads sc asg c.reads ∧ Reads sc asg s.reads := by
  simp [L2.EntryOk, L1.EntryOk, L0.allReads]

theorem entryOk_if_for {sc : Scope} {asg ts : List S} {c it : Expr} {s : Simple} :
    (L2.if_ c [.for_ ts it [{ parts := [s] }]] none).EntryOk sc asg ↔
      Reads sc asg c.reads ∧ Reads sc asg it.reads ∧ Reads sc (ts ++ asg) s.reads := by
  simp [L2.EntryOk, L1.EntryOk, L0.allReads]

theorem L1.EntryOk.mono {sc : Scope} {a b : List S} (hab : ∀ x ∈ a, x ∈ b) : ∀ {x : L1}, x.EntryOk sc a → x.EntryOk sc b
  | .line _, h => Reads.mono h hab
  | .for_ _ _ _, h => ⟨h.1.mono hab, h.2.mono fun n hn => List.mem_append.2 ((List.mem_append.1 hn).imp_right (hab n))⟩

theorem L2.EntryOk.mono {sc : Scope} {a b : List S} (hab : ∀ x ∈ a, x ∈ b) : ∀ {x : L2}, x.EntryOk sc a → x.EntryOk sc b
  | .s _, h => L1.EntryOk.mono hab h
  | .if_ _ _ _, h => ⟨h.1.mono hab, fun x hx => (h.2.1 x hx).mono hab, fun x hx => (h.2.2 x hx).mono hab⟩

theorem L1.check_of_entryOk {sc : Scope} {asg : List S} : ∀ {x : L1}, x.EntryOk sc asg →
    ∃ out, x.check sc asg = some out ∧ ∀ n ∈ asg, n ∈ out
  | .line l, h => by
    obtain ⟨out, ho, hm⟩ := checkSimples_of_reads sc l.parts asg h
    exact ⟨out, ho, fun n hn => (hm n).2 (Or.inr hn)⟩
  | .for_ ts it body, h => by
    obtain ⟨a, ha⟩ := Option.isSome_iff_exists.1 (checkL0s_of_reads sc body (ts ++ asg) h.2)
    exact ⟨asg, by simp only [L1.check, readsOk_iff_reads.2 h.1, if_true, ha], fun _ hn => hn⟩

theorem checkL1s_of_entryOk (sc : Scope) (xs : List L1) (asg : List S) (h : ∀ x ∈ xs, x.EntryOk sc asg) :
    ∃ out, checkL1s sc asg xs = some out ∧ ∀ n ∈ asg, n ∈ out := by
  induction xs generalizing asg with
  | nil => exact ⟨asg, rfl, fun _ hn => hn⟩
  | cons x r ih =>
    obtain ⟨a, ha, hg⟩ := L1.check_of_entryOk (h x List.mem_cons_self)
    obtain ⟨out, ho, hg'⟩ := ih a fun y hy => (h y (List.mem_cons_of_mem _ hy)).mono hg
    exact ⟨out, by simp only [checkL1s, ha, ho], fun n hn => hg' n (hg n hn)⟩

theorem L2.check_of_entryOk {sc : Scope} {asg : List S} : ∀ {x : L2}, x.EntryOk sc asg →
    ∃ out, x.check sc asg = some out ∧ ∀ n ∈ asg, n ∈ out
  | .s _, h => L1.check_of_entryOk h
  | .if_ c thn els, h => by
    obtain ⟨a, ha, hga⟩ := checkL1s_of_entryOk sc thn asg h.2.1
    obtain ⟨b, hb, hgb⟩ := checkL1s_of_entryOk sc (els.getD []) asg h.2.2
    refine ⟨a.filter b.contains, ?_, fun n hn => by simp [List.mem_filter, hga n hn, hgb n hn]⟩
    cases els with
    | none => cases hb; simp only [L2.check, readsOk_iff_reads.2 h.1, if_true, ha]
    | some e => simp only [L2.check, readsOk_iff_reads.2 h.1, if_true, ha, show checkL1s sc asg e = some b from hb]

theorem checkL2s_of_entryOk (sc : Scope) (xs : List L2) (asg : List S) (h : ∀ x ∈ xs, x.EntryOk sc asg) :
    ∃ out, checkL2s sc asg xs = some out ∧ ∀ n ∈ asg, n ∈ out := by
  induction xs generalizing asg with
  | nil => exact ⟨asg, rfl, fun _ hn => hn⟩
  | cons x r ih =>
    obtain ⟨a, ha, hg⟩ := L2.check_of_entryOk (h x List.mem_cons_self)
    obtain ⟨out, ho, hg'⟩ := ih a fun y hy => (h y (List.mem_cons_of_mem _ hy)).mono hg
    exact ⟨out, by simp only [checkL2s, ha, ho], fun n hn => hg' n (hg n hn)⟩

theorem checkL2s_append (sc : Scope) (xs ys : List L2) (asg : List S) :
    checkL2s sc asg (xs ++ ys) = (checkL2s sc asg xs).bind (fun a => checkL2s sc a ys) := by
  induction xs generalizing asg with
  | nil => rfl
  | cons x r ih =>
    simp only [List.cons_append, checkL2s]
    cases x.check sc asg with
    | some a => exact ih a
    | none => rfl

theorem single (sc : Scope) (x : L2) (asg : List S) : checkL2s sc asg [x] = x.check sc asg := by
  simp only [checkL2s]
  cases x.check sc asg <;> rfl

theorem line_ok (sc : Scope) (asg : List S) (s : Simple) (sep : S) (h : sc.readsOk asg s.reads = true) :
    (L2.check sc asg (.s (.line { parts := [s], sep := sep }))).isSome = true := by
  simp [L2.check, L1.check, L0.check, checkSimples, h]

/-- from any state in which the names `w` are assigned, `xs` passes the checker and leaves the names `w'` assigned.  Reading is
monotone in the assigned set, so what a piece needs is stated at the list `w` itself. -/
def Step (sc : Scope) (w w' : List S) (xs : List L2) : Prop :=
  ∀ a, (∀ n ∈ w, n ∈ a) → ∃ b, checkL2s sc a xs = some b ∧ ∀ n ∈ w', n ∈ b

theorem Step.append {sc : Scope} {w w' w'' : List S} {xs ys : List L2} (h1 : Step sc w w' xs) (h2 : Step sc w' w'' ys) :
    Step sc w w'' (xs ++ ys) := by
  intro a ha
  obtain ⟨b, hb, hw⟩ := h1 a ha
  obtain ⟨c, hc, hw'⟩ := h2 b hw
  exact ⟨c, by rw [checkL2s_append, hb]; exact hc, hw'⟩

theorem Step.of_entryOk {sc : Scope} {w : List S} {xs : List L2} (h : ∀ x ∈ xs, x.EntryOk sc w) : Step sc w w xs := by
  intro a ha
  obtain ⟨b, hb, hg⟩ := checkL2s_of_entryOk sc xs a fun x hx => (h x hx).mono ha
  exact ⟨b, hb, fun n hn => hg n (ha n hn)⟩

theorem Step.line {sc : Scope} {w : List S} {sep : S} {ps : List Simple} (h : Reads sc w (ps.flatMap Simple.reads)) :
    Step sc w (ps.flatMap Simple.writes ++ w) [.s (.line { parts := ps, sep := sep })] := by
  intro a ha
  obtain ⟨b, hb, hm⟩ := checkSimples_of_reads sc ps a (h.mono ha)
  refine ⟨b, by rw [single]; exact hb, fun n hn => (hm n).2 ?_⟩
  exact (List.mem_append.1 hn).imp_right (ha n)

theorem Step.ifElse {sc : Scope} {w ws : List S} {c : Expr} {l1 l2 : L0} (hc : Reads sc w c.reads) (h1 : Reads sc w l1.allReads)
    (h2 : Reads sc w l2.allReads) (hw1 : ∀ n ∈ ws, n ∈ l1.writes) (hw2 : ∀ n ∈ ws, n ∈ l2.writes) :
    Step sc w (ws ++ w) [.if_ c [.line l1] (some [.line l2])] := by
  intro a ha
  obtain ⟨x, hx, mx⟩ := checkSimples_of_reads sc l1.parts a (h1.mono ha)
  obtain ⟨y, hy, my⟩ := checkSimples_of_reads sc l2.parts a (h2.mono ha)
  refine ⟨x.filter y.contains, ?_, fun n hn => ?_⟩
  · simp only [single, L2.check, readsOk_iff_reads.2 (hc.mono ha), if_true, checkL1s, L1.check, L0.check, hx, hy]
  · rw [List.mem_filter, List.contains_iff_mem, mx, my]
    exact (List.mem_append.1 hn).elim (fun h => ⟨.inl (hw1 n h), .inl (hw2 n h)⟩) fun h => ⟨.inr (ha n h), .inr (ha n h)⟩

theorem Step.opt {sc : Scope} {w w' : List S} {xs : List L2} (b : Bool) (h : b = true → Step sc w w' xs)
    (hw : b = false → ∀ n ∈ w', n ∈ w) : Step sc w w' (if b then xs else []) := by
  cases b with
  | true => exact h rfl
  | false => exact fun a ha => ⟨a, rfl, fun n hn => ha n (hw rfl n hn)⟩

end DW.GenDump
