/- C16: insertion-ordered dicts (`get` / `put` / `del` / `keys`); the metaclass loop in normal form, a fold of `stepProp`
over the names of the settable properties (`wizardState_names`, `wizardState_eq`); the `__init__` loop (`initLoop_field`). -/
import DW.Model.C16

namespace DW.C16

theorem get_put {α : Type} (k k' : Name) (v : α) (l : List (Name × α)) :
    get k' (put k v l) = if k = k' then some v else get k' l := by
  induction l with
  | nil => simp [put, get]
  | cons e r ih =>
    by_cases hk : k = k'
    · subst hk; by_cases h0 : e.1 = k <;> simp [put, get, ih, h0]
    · by_cases h0 : e.1 = k <;> simp [put, get, ih, h0, hk]

theorem get_put_self {α : Type} (k : Name) (v : α) (l : List (Name × α)) : get k (put k v l) = some v := by
  simp [get_put]

theorem get_put_ne {α : Type} {k k' : Name} {v : α} {l : List (Name × α)} (h : k ≠ k') :
    get k' (put k v l) = get k' l := by
  simp [get_put, h]

theorem get_del {α : Type} (k k' : Name) (l : List (Name × α)) :
    get k' (del k l) = if k = k' then none else get k' l := by
  induction l with
  | nil => simp [del, get]
  | cons e r ih =>
    by_cases hk : k = k'
    · subst hk; by_cases h0 : e.1 = k <;> simp [del, get, ih, h0]
    · by_cases h0 : e.1 = k <;> simp [del, get, ih, h0, hk]

theorem get_del_ne {α : Type} {k k' : Name} {l : List (Name × α)} (h : k ≠ k') :
    get k' (del k l) = get k' l := by
  simp [get_del, h]

theorem del_of_get_none {α : Type} {k : Name} {l : List (Name × α)} (h : get k l = none) : del k l = l := by
  induction l with
  | nil => rfl
  | cons e r ih => by_cases h0 : e.1 = k <;> simp_all [get, del]

theorem keys_cons {α : Type} (e : Name × α) (l : List (Name × α)) : keys (e :: l) = e.1 :: keys l := rfl

theorem keys_put {α : Type} (k : Name) (v : α) (l : List (Name × α)) :
    keys (put k v l) = if k ∈ keys l then keys l else keys l ++ [k] := by
  induction l with
  | nil => simp [put, keys]
  | cons e r ih =>
    by_cases h0 : e.1 = k
    · simp [put, keys_cons, h0]
    · by_cases hm : k ∈ keys r <;> simp [put, keys_cons, h0, Ne.symm h0, hm, ih]

theorem mem_keys_of_get {α : Type} {k : Name} {l : List (Name × α)} (h : (get k l).isSome = true) : k ∈ keys l := by
  induction l with
  | nil => simp [get] at h
  | cons e r ih =>
    rw [keys_cons, List.mem_cons]
    by_cases h0 : e.1 = k
    · exact .inl h0.symm
    · exact .inr (ih (by simpa [get, h0] using h))

theorem put_ne_nil {α : Type} (k : Name) (v : α) (l : List (Name × α)) : put k v l ≠ [] := by
  fun_cases put k v l <;> simp

theorem nodup_keys_put {α : Type} (k : Name) (v : α) (l : List (Name × α)) (h : (keys l).Nodup) :
    (keys (put k v l)).Nodup := by
  rw [keys_put]
  split
  · exact h
  · next hm =>
    refine List.nodup_append.mpr ⟨h, by simp, fun a ha b hb hab => hm ?_⟩
    rwa [← List.mem_singleton.mp hb, ← hab]

theorem dedup_nodup (l acc : List Name) (h : (acc ++ l).Nodup) : dedup acc l = acc ++ l := by
  induction l generalizing acc with
  | nil => simp [dedup]
  | cons k r ih =>
    have hk : k ∉ acc := fun hm => (List.nodup_append.mp h).2.2 k hm k (by simp) rfl
    rw [dedup, if_neg hk, ih _ (by simpa using h), List.append_assoc, List.singleton_append]

theorem mem_dedup (l acc : List Name) (x : Name) : x ∈ dedup acc l ↔ x ∈ acc ∨ x ∈ l := by
  induction l generalizing acc with
  | nil => simp [dedup]
  | cons k r ih =>
    rw [dedup]
    split
    · next hk => rw [ih]; by_cases hx : x = k <;> simp [hx, hk]
    · rw [ih, List.mem_append, List.mem_singleton, List.mem_cons, or_assoc]

theorem keys_foldl_put (g : Name → Name) (l acc : List (Name × Ty)) :
    keys (l.foldl (fun acc e => put (g e.1) e.2 acc) acc) = dedup (keys acc) ((keys l).map g) := by
  induction l generalizing acc with
  | nil => rfl
  | cons e r ih =>
    rw [List.foldl_cons, ih, keys_put, keys_cons, List.map_cons, dedup]
    split <;> rfl

theorem keys_renameAnns (repls : List (Name × Name)) (anns : List (Name × Ty)) :
    keys (renameAnns repls anns) = dedup [] ((keys anns).map (fun n => (get n repls).getD n)) :=
  keys_foldl_put (fun n => (get n repls).getD n) anns []

theorem nodup_keys_exec_anns (b : Body) (m : Member) (h : (keys b.anns).Nodup) : (keys (b.exec m).anns).Nodup := by
  cases m with
  | ann n t => exact nodup_keys_put n t _ h
  | annAssign n t r => exact nodup_keys_put n t _ h
  | _ => exact h

theorem nodup_keys_classDict_anns (ms : List Member) : (keys (classDict ms).anns).Nodup :=
  List.foldlRecOn (motive := fun b => (keys b.anns).Nodup) ms Body.exec (by simp [keys])
    (fun b hb m _ => nodup_keys_exec_anns b m hb)

theorem nodup_keys_renameAnns (repls : List (Name × Name)) (anns : List (Name × Ty)) :
    (keys (renameAnns repls anns)).Nodup :=
  List.foldlRecOn (motive := fun acc => (keys acc).Nodup) anns _ (by simp [keys])
    (fun acc h e _ => nodup_keys_put _ _ _ h)

theorem isUnder_cons (c : Char) (r : Name) : isUnder (c :: r) = decide (c = '_') := by
  unfold isUnder
  split <;> simp_all

theorem lstrip_of_not_under (f : Name) (h : isUnder f = false) : lstrip f = f := by
  unfold lstrip
  split
  · simp [isUnder] at h
  · rfl

theorem lstrip_under (r : Name) : lstrip ('_' :: r) = lstrip r := by
  rw [lstrip]

theorem lstrip_under_of_not_under (n : Name) (h : isUnder n = false) : lstrip ('_' :: n) = n := by
  rw [lstrip_under, lstrip_of_not_under n h]

theorem isUnder_lstrip (f : Name) : isUnder (lstrip f) = false := by
  induction f with
  | nil => rfl
  | cons c r ih =>
    cases h : isUnder (c :: r) with
    | false => rwa [lstrip_of_not_under _ h]
    | true =>
      obtain rfl : c = '_' := by simpa [isUnder_cons] using h
      rwa [lstrip_under]

theorem ne_of_isUnder {a b : Name} (ha : isUnder a = true) (hb : isUnder b = false) : a ≠ b := by
  rintro rfl
  simp [ha] at hb

theorem isUnder_pubOf (f : Name) : isUnder (pubOf f) = false := by
  unfold pubOf
  split
  · exact isUnder_lstrip f
  · next h => simpa using h

/-! ### the metaclass loop in normal form: a fold over the names of the settable properties -/

/-- what one iteration of the loop does for a settable property named `f` -/
def stepProp (q : Quirks) (anns : List (Name × Ty)) (st : WState) (f : Name) : WState :=
  if isUnder f then processUnder q anns f st else processPublic anns f st

theorem foldl_stepNs (q : Quirks) (anns : List (Name × Ty)) (es : List (Name × NsVal)) (st : WState) :
    es.foldl (stepNs q anns) st = (settableNames es).foldl (stepProp q anns) st := by
  induction es generalizing st with
  | nil => rfl
  | cons e r ih =>
    obtain ⟨f, v⟩ := e
    rw [List.foldl_cons, ih]
    cases v with
    | prop o s w => cases s <;> rfl
    | _ => rfl

theorem stepProp_unpaired (q : Quirks) (anns : List (Name × Ty)) (st : WState) (f : Name)
    (hp : paired anns f = false) : stepProp q anns st f = st := by
  obtain ⟨h1, h2⟩ : get f anns = none ∧ get (partner f) anns = none := by simpa [paired] using hp
  cases hf : isUnder f with
  | true =>
    simp only [partner, hf, if_true] at h2
    simp [stepProp, hf, processUnder, h1, h2]
  | false =>
    simp only [partner, hf, Bool.false_eq_true, if_false] at h2
    simp [stepProp, hf, processPublic, h1, h2]

theorem foldl_stepProp_paired (q : Quirks) (anns : List (Name × Ty)) (fs : List Name) (st : WState) :
    fs.foldl (stepProp q anns) st = (fs.filter (paired anns)).foldl (stepProp q anns) st := by
  induction fs generalizing st with
  | nil => rfl
  | cons f r ih =>
    cases hp : paired anns f with
    | true => rw [List.filter_cons_of_pos hp, List.foldl_cons, List.foldl_cons, ih]
    | false => rw [List.filter_cons_of_neg (by simp [hp]), List.foldl_cons, stepProp_unpaired q anns st f hp, ih]

theorem wizardState_names (q : Quirks) (b : Body) :
    wizardState q b = (settableNames b.ns).foldl (stepProp q b.anns) { attrs := b.ns } :=
  foldl_stepNs q b.anns b.ns { attrs := b.ns }

theorem wizardState_eq (q : Quirks) (b : Body) :
    wizardState q b = ((settableNames b.ns).filter (paired b.anns)).foldl (stepProp q b.anns) { attrs := b.ns } := by
  rw [wizardState_names, foldl_stepProp_paired]

/-- the annotation key a settable property named `f` makes the metaclass rename -/
def replKey (anns : List (Name × Ty)) (f : Name) : Option Name :=
  if isUnder f then (if (get f anns).isSome then some f else none)
  else (if (get ('_' :: f) anns).isSome then some ('_' :: f) else none)

def addRepl (anns : List (Name × Ty)) (r : List (Name × Name)) (f : Name) : List (Name × Name) :=
  match replKey anns f with
  | some k => put k (lstrip k) r
  | none => r

theorem processPublic_repls (anns : List (Name × Ty)) (f : Name) (st : WState) (hf : isUnder f = false) :
    (processPublic anns f st).repls = addRepl anns st.repls f := by
  unfold processPublic addRepl replKey
  simp only [hf, Bool.false_eq_true, if_false]
  cases get ('_' :: f) anns with
  | none => cases get f anns <;> rfl
  | some t =>
    simp only [Option.isSome_some, Option.isNone_some, Bool.and_false, Bool.false_eq_true, if_false, if_true,
      lstrip_under_of_not_under f hf]
    split <;> rfl

theorem processUnder_repls (q : Quirks) (anns : List (Name × Ty)) (f : Name) (st : WState) (hf : isUnder f = true) :
    (processUnder q anns f st).repls = addRepl anns st.repls f := by
  unfold processUnder addRepl replKey
  simp only [hf, if_true]
  cases get f anns <;> cases get (lstrip f) anns <;> rfl

theorem stepProp_repls (q : Quirks) (anns : List (Name × Ty)) (st : WState) (f : Name) :
    (stepProp q anns st f).repls = addRepl anns st.repls f := by
  cases hf : isUnder f with
  | true => simp only [stepProp, hf, if_true]; exact processUnder_repls q anns f st hf
  | false => simp only [stepProp, hf, Bool.false_eq_true, if_false]; exact processPublic_repls anns f st hf

theorem foldl_repls (q : Quirks) (anns : List (Name × Ty)) (fs : List Name) (st : WState) :
    (fs.foldl (stepProp q anns) st).repls = fs.foldl (addRepl anns) st.repls := by
  induction fs generalizing st with
  | nil => rfl
  | cons f r ih => rw [List.foldl_cons, List.foldl_cons, ih, stepProp_repls]

theorem get_addRepl (anns : List (Name × Ty)) (r : List (Name × Name)) (f n : Name) :
    get n (addRepl anns r f) = if replKey anns f = some n then some (lstrip n) else get n r := by
  unfold addRepl
  cases replKey anns f with
  | none => simp
  | some k => by_cases hkn : k = n <;> simp [get_put, hkn]

theorem get_foldl_addRepl (anns : List (Name × Ty)) (n : Name) (fs : List Name) (r : List (Name × Name)) :
    get n (fs.foldl (addRepl anns) r) =
      if (fs.any (fun f => replKey anns f == some n)) then some (lstrip n) else get n r := by
  induction fs generalizing r with
  | nil => simp
  | cons f rest ih =>
    rw [List.foldl_cons, ih, get_addRepl, List.any_cons]
    by_cases hr : rest.any (fun f => replKey anns f == some n) <;> simp [hr]

theorem foldl_addRepl_nil_iff (anns : List (Name × Ty)) : ∀ (fs : List Name) (r : List (Name × Name)),
    (fs.foldl (addRepl anns) r).isEmpty = (r.isEmpty && fs.all (fun f => (replKey anns f).isNone)) := by
  intro fs
  induction fs with
  | nil => simp
  | cons f rest ih =>
    intro r
    rw [List.foldl_cons, ih, List.all_cons, addRepl]
    cases replKey anns f with
    | none => simp
    | some k => rw [List.isEmpty_eq_false_iff.mpr (put_ne_nil k _ r)]; simp

/-- the bridge from the loop's side (`replKey`, per property) to the specification's (`exposed`, per annotation key) -/
theorem any_replKey_eq_exposed (b : Body) (n : Name) :
    (settableNames b.ns).any (fun f => replKey b.anns f == some n) = exposed b n := by
  rw [Bool.eq_iff_iff, List.any_eq_true]
  constructor
  · rintro ⟨f, hf, hk⟩
    rw [beq_iff_eq, replKey] at hk
    cases hu : isUnder f with
    | false =>
      simp only [hu, Bool.false_eq_true, if_false, Option.ite_none_right_eq_some, Option.some.injEq] at hk
      obtain ⟨hg, rfl⟩ := hk
      simp [exposed, isUnder_cons, hu, hg, hf]
    | true =>
      simp only [hu, if_true, Option.ite_none_right_eq_some, Option.some.injEq] at hk
      obtain ⟨hg, rfl⟩ := hk
      simp [exposed, hu, hg, hf]
  · intro he
    simp only [exposed, Bool.and_eq_true, Bool.or_eq_true, List.contains_eq_mem, decide_eq_true_eq] at he
    obtain ⟨⟨hu, hg⟩, hc | hc⟩ := he
    · exact ⟨n, hc, by simp [replKey, hu, hg]⟩
    · cases n with
      | nil => cases hc
      | cons c p =>
        obtain rfl : c = '_' := by simpa [isUnder_cons] using hu
        simp only [Bool.and_eq_true, Bool.not_eq_true', decide_eq_true_eq] at hc
        exact ⟨p, hc.2, by simp [replKey, hc.1, hg]⟩

theorem keys_propertyWizard_anns (q : Quirks) (ms : List Member) :
    keys (propertyWizard q ms).anns = dedup [] ((keys (classDict ms).anns).map (expose (classDict ms))) := by
  have hget (n : Name) : (get n (wizardState q (classDict ms)).repls).getD n = expose (classDict ms) n := by
    rw [wizardState_names, foldl_repls, get_foldl_addRepl, any_replKey_eq_exposed, expose]
    cases exposed (classDict ms) n <;> rfl
  rw [← List.map_congr_left fun n _ => hget n]
  unfold propertyWizard
  dsimp only
  split
  · -- no replacements: every name maps to itself, and the keys have no repetitions, so `dedup` is the identity
    next hE => simp [List.isEmpty_iff.mp hE, get, dedup_nodup, nodup_keys_classDict_anns]
  · exact keys_renameAnns _ _

theorem nodup_keys_propertyWizard_anns (q : Quirks) (ms : List Member) :
    (keys (propertyWizard q ms).anns).Nodup := by
  unfold propertyWizard
  dsimp only
  split
  · exact nodup_keys_classDict_anns ms
  · exact nodup_keys_renameAnns _ _

theorem processField_fst (anns : List (Name × Ty)) (n : Name) (fs : FieldSpec) :
    (processField anns n fs).1 = if fs.isSet then fs else defaultFromAnnotation anns n := by
  unfold processField
  split <;> rfl

theorem processUnder_attrs (q : Quirks) (anns : List (Name × Ty)) (f : Name) (st : WState)
    (hf : isUnder f = true) (hp : paired anns f = true) :
    (processUnder q anns f st).attrs = del f (put (lstrip f)
      (.prop f true (some (declaredDefaultWith q anns f (get (lstrip f) st.attrs)))) st.attrs) := by
  unfold paired partner at hp
  unfold processUnder declaredDefaultWith
  simp only [hf, if_true, processField_fst] at hp ⊢
  cases hu : get f anns <;> cases hq : get (lstrip f) anns <;> simp [hu, hq] at hp ⊢

theorem processPublic_attrs (q : Quirks) (anns : List (Name × Ty)) (f : Name) (st : WState)
    (hf : isUnder f = false) (hp : paired anns f = true) :
    (processPublic anns f st).attrs = put f
      (.prop f true (some (declaredDefaultWith q anns f (get ('_' :: f) st.attrs))))
      (if (get ('_' :: f) anns).isSome then del ('_' :: f) st.attrs else st.attrs) := by
  unfold paired partner at hp
  unfold processPublic declaredDefaultWith
  simp only [hf, Bool.false_eq_true, if_false] at hp ⊢
  cases hu : get ('_' :: f) anns with
  | none =>
    cases hq : get f anns with
    | none => simp [hu, hq] at hp
    | some _ => simp
  | some t =>
    cases ha : get ('_' :: f) st.attrs with
    | none => simp [explicitDefault, del_of_get_none ha]    -- the `AttributeError` branch deletes nothing
    | some v =>
      cases v with
      | field fs i => by_cases hs : fs.isSet = true <;> simp [explicitDefault, processField, hs]
      | _ => simp [explicitDefault]

theorem stepProp_frame (q : Quirks) (anns : List (Name × Ty)) (st : WState) (f k : Name)
    (h1 : f ≠ k) (h2 : partner f ≠ k) : get k (stepProp q anns st f).attrs = get k st.attrs := by
  cases hp : paired anns f with
  | false => rw [stepProp_unpaired q anns st f hp]
  | true =>
    cases hf : isUnder f with
    | true =>
      simp only [stepProp, partner, hf, if_true] at h2 ⊢
      rw [processUnder_attrs q anns f st hf hp, get_del_ne h1, get_put_ne h2]
    | false =>
      simp only [stepProp, partner, hf, Bool.false_eq_true, if_false] at h2 ⊢
      rw [processPublic_attrs q anns f st hf hp, get_put_ne h1]
      split
      · exact get_del_ne h2
      · rfl

theorem foldl_frame (q : Quirks) (anns : List (Name × Ty)) (k : Name) (fs : List Name) (st : WState)
    (h : ∀ f ∈ fs, f ≠ k ∧ partner f ≠ k) : get k (fs.foldl (stepProp q anns) st).attrs = get k st.attrs :=
  List.foldlRecOn fs _ (motive := fun s => get k s.attrs = get k st.attrs) rfl
    fun s hs f hf => (stepProp_frame q anns s f k (h f hf).1 (h f hf).2).trans hs

theorem stepProp_value (q : Quirks) (anns : List (Name × Ty)) (st : WState) (f : Name) (hp : paired anns f = true) :
    get (pubOf f) (stepProp q anns st f).attrs
      = some (.prop f true (some (declaredDefaultWith q anns f (get (partner f) st.attrs)))) := by
  cases hf : isUnder f with
  | true =>
    simp only [stepProp, pubOf, partner, hf, if_true]
    rw [processUnder_attrs q anns f st hf hp, get_del_ne (ne_of_isUnder hf (isUnder_lstrip f)), get_put_self]
  | false =>
    simp only [stepProp, pubOf, partner, hf, Bool.false_eq_true, if_false]
    rw [processPublic_attrs q anns f st hf hp, get_put_self]

/-- `p` is bound to a property whose setter has been wrapped -/
def Wrapped (attrs : List (Name × NsVal)) (p : Name) : Prop :=
  ∃ o fv, get p attrs = some (.prop o true (some fv))

theorem touch_pub (g p : Name) (hp : isUnder p = false) (h : g = p ∨ partner g = p) : pubOf g = p := by
  cases hg : isUnder g with
  | true =>
    simp only [pubOf, partner, hg, if_true] at h ⊢
    exact h.resolve_left (ne_of_isUnder hg hp)
  | false =>
    simp only [pubOf, partner, hg, Bool.false_eq_true, if_false] at h ⊢
    exact h.resolve_right (ne_of_isUnder rfl hp)

theorem stepProp_wrapped (q : Quirks) (anns : List (Name × Ty)) (st : WState) (g p : Name)
    (hp : isUnder p = false) (h : Wrapped st.attrs p) : Wrapped (stepProp q anns st g).attrs p := by
  cases hpa : paired anns g with
  | false => rwa [stepProp_unpaired q anns st g hpa]
  | true =>
    by_cases ht : g = p ∨ partner g = p
    · exact ⟨g, _, touch_pub g p hp ht ▸ stepProp_value q anns st g hpa⟩
    · obtain ⟨h1, h2⟩ := not_or.mp ht
      unfold Wrapped
      rwa [stepProp_frame q anns st g p h1 h2]

theorem foldl_wrapped (q : Quirks) (anns : List (Name × Ty)) (f : Name) (hpa : paired anns f = true)
    (fs : List Name) (st : WState) (h : f ∈ fs) : Wrapped (fs.foldl (stepProp q anns) st).attrs (pubOf f) := by
  induction fs generalizing st with
  | nil => cases h
  | cons g r ih =>
    rw [List.foldl_cons]
    rcases List.mem_cons.mp h with rfl | h
    · exact List.foldlRecOn r _ (motive := fun s => Wrapped s.attrs (pubOf f)) ⟨f, _, stepProp_value q anns st f hpa⟩
        fun s hs g _ => stepProp_wrapped q anns s g _ (isUnder_pubOf f) hs
    · exact ih _ h

theorem self_mem_touch (f : Name) : f ∈ touch f := List.mem_cons_self

theorem partner_mem_touch (f : Name) : partner f ∈ touch f := List.mem_cons_of_mem _ List.mem_cons_self

theorem pubOf_mem_touch (f : Name) : pubOf f ∈ touch f := by
  unfold pubOf touch partner
  split <;> simp

theorem disjoint_touch {f g x y : Name} (h : disjoint (touch f) (touch g) = true) (hx : x ∈ touch f)
    (hy : y ∈ touch g) : x ≠ y := by
  rintro rfl
  simpa [hy] using List.all_eq_true.mp h x hx

/-- `ns0` is the class body's namespace before the loop. The hypothesis on `st` says that the partner's binding is still
the one in `ns0`; under independence no other property touches it before `f` is processed. -/
theorem foldl_default_chosen (q : Quirks) (anns : List (Name × Ty)) (ns0 : List (Name × NsVal)) (f : Name)
    (hpa : paired anns f = true) (fs : List Name) (st : WState) (hind : independent fs = true) (hmem : f ∈ fs)
    (hst : get (partner f) st.attrs = get (partner f) ns0) :
    get (pubOf f) (fs.foldl (stepProp q anns) st).attrs
      = some (.prop f true (some (declaredDefaultWith q anns f (get (partner f) ns0)))) := by
  induction fs generalizing st with
  | nil => cases hmem
  | cons g r ih =>
    simp only [independent, Bool.and_eq_true, List.all_eq_true] at hind
    obtain ⟨hhead, htail⟩ := hind
    rw [List.foldl_cons]
    rcases List.mem_cons.mp hmem with rfl | hmem
    · -- f is processed now; nothing later touches its public name
      rw [foldl_frame q anns (pubOf f) r _ fun h hh =>
        ⟨(disjoint_touch (hhead h hh) (pubOf_mem_touch f) (self_mem_touch h)).symm,
         (disjoint_touch (hhead h hh) (pubOf_mem_touch f) (partner_mem_touch h)).symm⟩]
      rw [stepProp_value q anns st f hpa, hst]
    · have hd := hhead f hmem
      exact ih _ htail hmem
        (hst ▸ stepProp_frame q anns st g (partner f)
          (disjoint_touch hd (self_mem_touch g) (partner_mem_touch f))
          (disjoint_touch hd (partner_mem_touch g) (partner_mem_touch f)))

/-- the setter of a property slot: wrapped (`some fv`) or as the user wrote it (`none`) -/
def wrapW (w : Option FieldSpec) (v : Val) (c : Nat) : Val × Nat :=
  match w with
  | none => (v, c)
  | some fv => wrapSet fv v c

theorem wrapSet_mono (fv : FieldSpec) (v : Val) (c : Nat) : c ≤ (wrapSet fv v c).2 := by
  unfold wrapSet
  split
  · split <;> simp
  · exact Nat.le_refl c

theorem wrapW_mono (w : Option FieldSpec) (v : Val) (c : Nat) : c ≤ (wrapW w v c).2 := by
  cases w with
  | none => exact Nat.le_refl c
  | some fv => exact wrapSet_mono fv v c

theorem wrapW_of_ne_propObj (w : Option FieldSpec) (v : Val) (c : Nat) (hv : v ≠ .propObj) : wrapW w v c = (v, c) := by
  cases w with
  | none => rfl
  | some fv => rw [wrapW, wrapSet]; exact hv

theorem wrapW_omitted (fv : FieldSpec) (n : Nat) :
    (wrapW (some fv) .propObj n).1 = routedDefault fv n
    ∧ (wrapW (some fv) .propObj n).2 = (if fv.factory.isSome then n + 1 else n) := by
  unfold wrapW wrapSet routedDefault
  cases h : fv.factory <;> simp [h]

theorem logOf_append (p : Name) (i : Inst) (n : Name) (v : Val) (st : List (Name × Val)) :
    logOf p { log := i.log ++ [(n, v)], store := st } = if n = p then logOf p i ++ [(n, v)] else logOf p i := by
  unfold logOf
  by_cases h : n = p <;> simp [List.filter_append, h]

theorem setAttr_prop (attrs : List (Name × NsVal)) (i : Inst) (c : Nat) (p o : Name) (w : Option FieldSpec) (v : Val)
    (hp : get p attrs = some (.prop o true w)) :
    setAttr attrs i c p v = .ok ({ log := i.log ++ [(p, (wrapW w v c).1)], store := put p (wrapW w v c).1 i.store },
      (wrapW w v c).2) := by
  unfold setAttr
  cases w <;> simp [hp, wrapW]

theorem setAttr_other (attrs : List (Name × NsVal)) (i : Inst) (c : Nat) (n : Name) (v : Val) (i2 : Inst) (c2 : Nat)
    (p : Name) (h : setAttr attrs i c n v = .ok (i2, c2)) (hn : n ≠ p) :
    logOf p i2 = logOf p i ∧ get p i2.store = get p i.store ∧ c ≤ c2 := by
  unfold setAttr at h
  split at h <;> cases h
  all_goals simp [logOf, hn, get_put_ne hn, wrapSet_mono]

theorem bindField_mono (args : List (Name × Val)) (fd : DField) (c : Nat) : c ≤ (bindField args fd c).2 := by
  unfold bindField
  cases fd.init <;> cases fd.dflt <;> cases get fd.name args <;> simp

theorem initLoop_cons_other {attrs : List (Name × NsVal)} {args : List (Name × Val)} {p : Name} {fd : DField}
    {r : List DField} {i i' : Inst} {c c' : Nat} (h : initLoop attrs args (fd :: r) i c = .ok (i', c'))
    (hn : fd.name ≠ p) :
    ∃ i2 c2, initLoop attrs args r i2 c2 = .ok (i', c') ∧
      logOf p i2 = logOf p i ∧ get p i2.store = get p i.store ∧ c ≤ c2 := by
  have hmono := bindField_mono args fd c
  unfold initLoop at h
  split at h
  · next c1 hb => exact ⟨i, c1, h, rfl, rfl, by simpa [hb] using hmono⟩
  · next v c1 hb =>
    split at h
    · cases h
    · next i2 c2 hs =>
      obtain ⟨h1, h2, h3⟩ := setAttr_other attrs i c1 fd.name v i2 c2 p hs hn
      exact ⟨i2, c2, h, h1, h2, Nat.le_trans (by simpa [hb] using hmono) h3⟩

theorem initLoop_other (attrs : List (Name × NsVal)) (args : List (Name × Val)) (p : Name)
    (fs : List DField) (i : Inst) (c : Nat) (i' : Inst) (c' : Nat)
    (h : initLoop attrs args fs i c = .ok (i', c')) (hne : ∀ fd ∈ fs, fd.name ≠ p) :
    logOf p i' = logOf p i ∧ get p i'.store = get p i.store ∧ c ≤ c' := by
  induction fs generalizing i c with
  | nil => cases h; exact ⟨rfl, rfl, Nat.le_refl _⟩
  | cons fd r ih =>
    obtain ⟨i2, c2, hrest, h1, h2, h3⟩ := initLoop_cons_other h (hne fd (by simp))
    obtain ⟨k1, k2, k3⟩ := ih i2 c2 hrest (fun x hx => hne x (List.mem_cons_of_mem _ hx))
    exact ⟨k1.trans h1, k2.trans h2, Nat.le_trans h3 k3⟩

/-- `n` is the allocation counter at the moment the loop reaches the field bound to slot `p`: that field makes exactly
one setter call for `p`, with the bound value passed through the (possibly wrapped) setter at that count. -/
theorem initLoop_field (attrs : List (Name × NsVal)) (args : List (Name × Val)) (p o : Name) (w : Option FieldSpec)
    (hp : get p attrs = some (.prop o true w)) (v : Val)
    (fs : List DField) (i : Inst) (c : Nat) (i' : Inst) (c' : Nat)
    (hnd : (fs.map (·.name)).Nodup) (h : initLoop attrs args fs i c = .ok (i', c'))
    (hex : ∃ fd ∈ fs, fd.name = p ∧ ∀ c1, bindField args fd c1 = (some v, c1)) :
    ∃ n, c ≤ n ∧ (wrapW w v n).2 ≤ c' ∧ logOf p i' = logOf p i ++ [(p, (wrapW w v n).1)]
      ∧ get p i'.store = some (wrapW w v n).1 := by
  induction fs generalizing i c with
  | nil => obtain ⟨fd, hfd, _⟩ := hex; cases hfd
  | cons fd0 r ih =>
    obtain ⟨fd, hfd, hname, hbind⟩ := hex
    obtain ⟨hhead, hndr⟩ := List.nodup_cons.mp hnd
    rcases List.mem_cons.mp hfd with rfl | hfdr
    · -- the field of slot `p` comes first: it calls the setter now, and no later field is named `p`
      rw [initLoop, hbind c] at h
      simp only [hname, setAttr_prop attrs i c p o w v hp] at h
      obtain ⟨h1, h2, h3⟩ := initLoop_other attrs args p r _ _ i' c' h fun x hx hxp =>
        hhead (List.mem_map.mpr ⟨x, hx, hxp.trans hname.symm⟩)
      exact ⟨c, Nat.le_refl _, h3, by simp [h1, logOf_append], by simp [h2, get_put_self]⟩
    · have h0 : fd0.name ≠ p := fun h0 => hhead (List.mem_map.mpr ⟨fd, hfdr, hname.trans h0.symm⟩)
      obtain ⟨i2, c2, hrest, h1, _, h3⟩ := initLoop_cons_other h h0
      obtain ⟨n, hn1, hn2, hn3, hn4⟩ := ih i2 c2 hndr hrest ⟨fd, hfdr, hname, hbind⟩
      exact ⟨n, Nat.le_trans h3 hn1, hn2, by rw [hn3, h1], hn4⟩

theorem construct_ok {c0 : Cls} {fs : List DField} {args : List (Name × Val)} {c : Nat} {i : Inst} {c' : Nat}
    (h : construct c0 fs args c = .ok (i, c')) : initLoop c0.attrs args fs {} c = .ok (i, c') := by
  unfold construct at h
  split at h
  · exact h
  · cases h

theorem dfieldOf_name (attrs : List (Name × NsVal)) (n : Name) : (dfieldOf attrs n).name = n := by
  unfold dfieldOf
  split <;> rfl

theorem dfieldOf_prop {attrs : List (Name × NsVal)} {n o : Name} {s : Bool} {w : Option FieldSpec}
    (h : get n attrs = some (.prop o s w)) : dfieldOf attrs n = { name := n, dflt := .value .propObj, init := true } := by
  unfold dfieldOf
  rw [h]
  rfl

theorem ok_of_ite_error {ε α : Type} {c : Prop} [Decidable c] {e : ε} {x : Except ε α} {v : α}
    (h : (if c then .error e else x) = .ok v) : x = .ok v := by
  split at h
  · cases h
  · exact h

/-- each of the three checks of `dataclass` raises -/
theorem dataclass_ok {c : Cls} {fs : List DField} (h : dataclass c = .ok fs) : fs = dataclassFields c :=
  (Except.ok.inj (ok_of_ite_error (ok_of_ite_error (ok_of_ite_error h)))).symm

theorem isUnder_of_exposed {b : Body} {n : Name} (h : exposed b n = true) : isUnder n = true := by
  simp only [exposed, Bool.and_eq_true] at h
  exact h.1.1

theorem pubOf_mem_keys (q : Quirks) (ms : List Member) (f : Name)
    (hf : f ∈ settableNames (classDict ms).ns) (hp : paired (classDict ms).anns f = true) :
    pubOf f ∈ keys (propertyWizard q ms).anns := by
  rw [keys_propertyWizard_anns, mem_dedup, List.mem_map]
  right
  -- the annotation that ends up as `pubOf f`: `f`'s own, or else its partner's
  have hnot (n : Name) (h : isUnder n = false) : expose (classDict ms) n = n := by simp [expose, exposed, h]
  unfold paired partner at hp
  unfold pubOf
  cases hu : isUnder f with
  | false =>
    simp only [hu, Bool.false_eq_true, if_false] at hp ⊢
    obtain h | h := Bool.or_eq_true_iff.mp hp
    · exact ⟨f, mem_keys_of_get h, hnot f hu⟩
    · exact ⟨'_' :: f, mem_keys_of_get h,
        by simp [expose, exposed, isUnder_cons, h, hu, hf, lstrip_under_of_not_under f hu]⟩
  | true =>
    simp only [hu, if_true] at hp ⊢
    obtain h | h := Bool.or_eq_true_iff.mp hp
    · exact ⟨f, mem_keys_of_get h, by simp [expose, exposed, hu, h, hf]⟩
    · exact ⟨lstrip f, mem_keys_of_get h, hnot _ (isUnder_lstrip f)⟩

end DW.C16
