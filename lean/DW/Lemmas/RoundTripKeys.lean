/- Discharging the `keys` hypothesis of `RT.ClsOK` for the name class of the property: for canonically snake_cased field
names (words `[a-z][a-z0-9]+`), no aliases, the default load transform and *every* `key_transform_with_dump` setting, the
dump key of each field leads the loader back to that field. -/
import DW.Lemmas.RoundTrip
import DW.Lemmas.C08Case

namespace DW.RT
open DW DW.Str DW.C08Case DW.Tagged

/-- a field name of the property's class: at least one word, every word `[a-z][a-z0-9]+` (two characters or more) -/
def NameOK (n : S) : Prop :=
  ∃ ws : List S, ws ≠ [] ∧ (∀ w ∈ ws, wordOk w = true ∧ startsLower w = true ∧ 2 ≤ w.length) ∧ n = joinWords ws

theorem nameOK_lower {n : S} (h : NameOK n) : lowerS n = n := by
  obtain ⟨ws, hne, hw, rfl⟩ := h
  have hW := words_of_canon (safe_of_property_class hne hw).1
  exact lowerS_noUp _ (joinSep_noUp special_underscore hW)

theorem nameOK_snake {n : S} (h : NameOK n) : toSnake n = n := by
  obtain ⟨ws, hne, hw, rfl⟩ := h
  exact snake_fixed (safe_of_property_class hne hw).1

theorem nameOK_transform {n : S} (h : NameOK n) (T : LetterCaseOpt) :
    ∃ k, T.toLC.apply n = some k ∧ toSnake k = n := by
  obtain ⟨ws, hne, hw, rfl⟩ := h
  obtain ⟨hl, ⟨c, hc1, hc2⟩, ⟨p, hp1, hp2⟩⟩ := roundtrips_property_class hne hw
  obtain ⟨hcan, _, _⟩ := safe_of_property_class hne hw
  cases T with
  | camel => exact ⟨c, hc1, hc2⟩
  | pascal => exact ⟨p, hp1, hp2⟩
  | lisp => exact ⟨toLisp (joinWords ws), rfl, hl⟩
  | snake => exact ⟨toSnake (joinWords ws), rfl, by rw [snake_fixed hcan, snake_fixed hcan]⟩
  | none => exact ⟨joinWords ws, rfl, snake_fixed hcan⟩

theorem aliasTable_nil (ci : ClassInfo) (h : ∀ f ∈ ci.fields, f.loadKeys = []) : aliasTable ci = [] := by
  unfold aliasTable
  generalize ci.fields = fs at h
  induction fs with
  | nil => rfl
  | cons f r ih =>
    obtain ⟨hf, hr⟩ := List.forall_mem_cons.1 h
    rw [List.foldl_cons, hf, List.map_nil, List.append_nil, ite_self]
    exact ih hr

theorem find_rev_lower (names : List S) (n : S) (hmem : n ∈ names) (hlow : ∀ m ∈ names, lowerS m = m) :
    names.reverse.find? (fun f => lowerS f = lowerS n) = some n :=
  find?_of_unique (List.mem_reverse.2 hmem) (decide_eq_true rfl) fun m hm hp => by
    rw [← hlow m (List.mem_reverse.1 hm), of_decide_eq_true hp, hlow n hmem]

theorem keys_of_names (cfg : Option MetaCfg) (ci : ClassInfo)
    (hplain : ∀ f ∈ ci.fields, f.init = true ∧ f.loadKeys = [] ∧ f.dumpAll = false)
    (hnames : ∀ f ∈ ci.fields, NameOK f.name)
    (hload : (effMeta ci.cmeta cfg).keyTransformLoad.getD .snake = .snake)
    (htag : ∀ f ∈ ci.fields, ∀ k, dumpKey (effMeta ci.cmeta cfg) f = .ok k →
      ((effMeta ci.cmeta cfg).tag.isSome && k == tagKeyOf (effMeta ci.cmeta cfg)) = false) :
    ∀ f ∈ ci.fields, ∃ k, dumpKey (effMeta ci.cmeta cfg) f = .ok k ∧
      resolveKey (effMeta ci.cmeta cfg) ci k = .ok (.field f.name) := by
  intro f hf
  obtain ⟨k, hk1, hk2⟩ := nameOK_transform (hnames f hf) ((effMeta ci.cmeta cfg).keyTransformDump.getD .camel)
  have hdk : dumpKey (effMeta ci.cmeta cfg) f = .ok k := by
    simp only [dumpKey, (hplain f hf).2.2, Bool.false_eq_true, if_false, hk1]
  refine ⟨k, hdk, ?_⟩
  have hal := aliasTable_nil ci (fun g hg => (hplain g hg).2.1)
  have hinitNames : initFieldNames ci = ci.fields.map (·.name) := by
    rw [initFieldNames, List.filter_eq_self.2 (fun g hg => by simp [(hplain g hg).1])]
  have hN : ∀ m ∈ initFieldNames ci, NameOK m := by
    rw [hinitNames]; exact List.forall_mem_map.2 hnames
  have hmem : f.name ∈ initFieldNames ci := hinitNames ▸ List.mem_map.2 ⟨f, hf, rfl⟩
  by_cases hkm : k ∈ initFieldNames ci
  · -- the transformed key is itself a field name: it is then its own snake_case, i.e. this field's name
    have : k = f.name := by rw [← nameOK_snake (hN k hkm), hk2]
    rw [this]
    exact resolveKey_fieldName _ ci _ hal hmem
  · have hc : (initFieldNames ci).contains k = false := by simpa using hkm
    have htk := htag f hf k hdk
    simp only [tagKeyOf] at htk
    unfold resolveKey
    simp only [hal, List.reverse_nil, List.find?_nil, htk, hc, Bool.false_and, Bool.false_eq_true, if_false, hload,
      LetterCaseOpt.toLC, LetterCase.apply, hk2, lastLowerMatch,
      find_rev_lower (initFieldNames ci) f.name hmem (fun m hm => nameOK_lower (hN m hm)), pure, Except.pure]

end DW.RT
