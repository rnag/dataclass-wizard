/- Helper lemmas about the dump model: hook resolution against the generated registration table, what each scalar hook writes,
and two facts about the effective Meta (`RT.orElse_self`; `RT.effMeta_root`: the config a main class sends travelling changes
nothing for the class itself). -/
import DW.Model.Dump

namespace DW

/-! Which hook the fixed registration table selects, by kernel evaluation. One evaluation per group of value forms: the kernel
encodes and compares each string of the table once per evaluation, so a `decide` of its own for every fact costs many times
more. A hook does not depend on the payload (`PyVal.mro` looks at the constructor only), so the general statements are the
evaluated ones at a sample payload, by definitional unfolding. The container hooks are stated at the empty container only: that
is the form `dumpV` asks `hookFor` about (`hookFor (.seq k [])`, `hookFor (.tuple [])`, `hookFor (.map k [])`). -/

theorem hookFor_scalars :
    hookFor .none = .null ∧ hookFor (.bool true) = .bool ∧ hookFor (.int 0) = .int ∧ hookFor (.float .nan) = .float ∧
    hookFor (.str []) = .str ∧ (∀ m, hookFor (.bytes m []) = .bytes) ∧ hookFor (.timedelta 0) = .timedelta ∧
    hookFor (.enum [] [] .none) = .enum := by
  decide +kernel

theorem hookFor_leaves : ∀ sub,
    hookFor (.leaf .decimal sub []) = .decimal ∧ hookFor (.leaf .uuid sub []) = .uuid ∧ hookFor (.leaf .date sub []) = .date ∧
    hookFor (.leaf .time sub []) = .time ∧ hookFor (.leaf .datetime sub []) = .datetime ∧
    hookFor (.leaf .path sub []) = .default := by
  decide +kernel

theorem hookFor_containers :
    hookFor (.seq .list []) = .listOrTuple ∧ hookFor (.seq .set []) = .iterable ∧ hookFor (.seq .frozenset []) = .iterable ∧
    hookFor (.seq .deque []) = .iterable ∧ hookFor (.tuple []) = .listOrTuple ∧ hookFor (.map .dict []) = .dict ∧
    hookFor (.map .defaultdict []) = .defaultdict ∧ hookFor (.map .ordereddict []) = .dict := by
  decide +kernel

@[simp] theorem hookFor_none : hookFor .none = .null := hookFor_scalars.1
@[simp] theorem hookFor_bool (b : Bool) : hookFor (.bool b) = .bool := hookFor_scalars.2.1
@[simp] theorem hookFor_int (i : Int) : hookFor (.int i) = .int := hookFor_scalars.2.2.1
@[simp] theorem hookFor_float (f : PyFloat) : hookFor (.float f) = .float := hookFor_scalars.2.2.2.1
@[simp] theorem hookFor_str (s : S) : hookFor (.str s) = .str := hookFor_scalars.2.2.2.2.1
@[simp] theorem hookFor_bytes (m : Bool) (b : List Nat) : hookFor (.bytes m b) = .bytes := by
  cases m
  · exact hookFor_scalars.2.2.2.2.2.1 false
  · exact hookFor_scalars.2.2.2.2.2.1 true
@[simp] theorem hookFor_timedelta (us : Int) : hookFor (.timedelta us) = .timedelta := hookFor_scalars.2.2.2.2.2.2.1
@[simp] theorem hookFor_enum (c m : S) (v : Lit) : hookFor (.enum c m v) = .enum := hookFor_scalars.2.2.2.2.2.2.2
@[simp] theorem hookFor_decimal (sub : Bool) (t : S) : hookFor (.leaf .decimal sub t) = .decimal := by
  cases sub
  · exact (hookFor_leaves false).1
  · exact (hookFor_leaves true).1
@[simp] theorem hookFor_uuid (sub : Bool) (t : S) : hookFor (.leaf .uuid sub t) = .uuid := by
  cases sub
  · exact (hookFor_leaves false).2.1
  · exact (hookFor_leaves true).2.1
@[simp] theorem hookFor_date (sub : Bool) (t : S) : hookFor (.leaf .date sub t) = .date := by
  cases sub
  · exact (hookFor_leaves false).2.2.1
  · exact (hookFor_leaves true).2.2.1
@[simp] theorem hookFor_time (sub : Bool) (t : S) : hookFor (.leaf .time sub t) = .time := by
  cases sub
  · exact (hookFor_leaves false).2.2.2.1
  · exact (hookFor_leaves true).2.2.2.1
@[simp] theorem hookFor_datetime (sub : Bool) (t : S) : hookFor (.leaf .datetime sub t) = .datetime := by
  cases sub
  · exact (hookFor_leaves false).2.2.2.2.1
  · exact (hookFor_leaves true).2.2.2.2.1
@[simp] theorem hookFor_path (sub : Bool) (t : S) : hookFor (.leaf .path sub t) = .default := by
  cases sub
  · exact (hookFor_leaves false).2.2.2.2.2
  · exact (hookFor_leaves true).2.2.2.2.2
@[simp] theorem hookFor_list : hookFor (.seq .list []) = .listOrTuple := hookFor_containers.1
@[simp] theorem hookFor_set : hookFor (.seq .set []) = .iterable := hookFor_containers.2.1
@[simp] theorem hookFor_frozenset : hookFor (.seq .frozenset []) = .iterable := hookFor_containers.2.2.1
@[simp] theorem hookFor_deque : hookFor (.seq .deque []) = .iterable := hookFor_containers.2.2.2.1
@[simp] theorem hookFor_tuple : hookFor (.tuple []) = .listOrTuple := hookFor_containers.2.2.2.2.1
@[simp] theorem hookFor_dict : hookFor (.map .dict []) = .dict := hookFor_containers.2.2.2.2.2.1
@[simp] theorem hookFor_defaultdict : hookFor (.map .defaultdict []) = .defaultdict := hookFor_containers.2.2.2.2.2.2.1
@[simp] theorem hookFor_ordereddict : hookFor (.map .ordereddict []) = .dict := hookFor_containers.2.2.2.2.2.2.2

/-! ### the scalar hooks, one equation per form of value

Which hook the table selects, then that hook's arm by `rfl`; `simp [dumpScalar]` instead walks the whole hook × value match and
costs about ten times as much to check. -/

section dumpScalar
variable (std : Std) (ts : Bool)

theorem dumpScalar_none : dumpScalar std ts .none = .ok .null := by
  rw [dumpScalar.eq_def, hookFor_none]; rfl
theorem dumpScalar_bool (b : Bool) : dumpScalar std ts (.bool b) = .ok (.bool b) := by
  rw [dumpScalar.eq_def, hookFor_bool]; rfl
theorem dumpScalar_int (i : Int) : dumpScalar std ts (.int i) = .ok (.int i) := by
  rw [dumpScalar.eq_def, hookFor_int]; rfl
theorem dumpScalar_float (f : PyFloat) : dumpScalar std ts (.float f) = .ok (.float f) := by
  rw [dumpScalar.eq_def, hookFor_float]; rfl
theorem dumpScalar_str (s : S) : dumpScalar std ts (.str s) = .ok (.str s) := by
  rw [dumpScalar.eq_def, hookFor_str]; rfl
theorem dumpScalar_bytes (m : Bool) (b : List Nat) : dumpScalar std ts (.bytes m b) = .ok (.str (std.b64encode b)) := by
  rw [dumpScalar.eq_def, hookFor_bytes]; rfl
theorem dumpScalar_enum (c m : S) (v : Lit) : dumpScalar std ts (.enum c m v) = .ok v.toD := by
  rw [dumpScalar.eq_def, hookFor_enum]; rfl
theorem dumpScalar_timedelta (us : Int) : dumpScalar std ts (.timedelta us) = .ok (.str (tdStr us)) := by
  rw [dumpScalar.eq_def, hookFor_timedelta]; rfl

/-- what the dump writes for a leaf value in ISO mode: the token, with a trailing `+00:00` as `Z` for time / datetime -/
def leafText (k : LeafKind) (t : S) : S :=
  match k with
  | .time => isoZ t
  | .datetime => isoZ t
  | _ => t

theorem dumpScalar_leaf (k : LeafKind) (sub : Bool) (t : S) :
    dumpScalar std false (.leaf k sub t) = .ok (.str (leafText k t)) := by
  rw [dumpScalar.eq_def]
  cases k <;> simp only [hookFor_decimal, hookFor_path, hookFor_uuid, hookFor_date, hookFor_time, hookFor_datetime] <;> rfl

end dumpScalar

namespace RT

theorem orElse_self (o : MetaCfg) : o.orElse o = o := by
  cases o; simp [MetaCfg.orElse]

theorem effMeta_root (own : Option MetaCfg) : effMeta own (rootConfig own) = effMeta own none := by
  cases own with
  | none => rfl
  | some o =>
    simp only [rootConfig]
    split
    · simp [effMeta, orElse_self]
    · rfl

end RT

end DW
