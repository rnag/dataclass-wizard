/- Soundness of the default-engine loader for composite types: definitions (`Frag`, `Sound`) and the induction behind
`C05_sound`. -/
import DW.Lemmas.SoundScalar
import DW.Lemmas.KeyLoop
import DW.Lemmas.Build
import DW.Lemmas.V1
import DW.Lemmas.LoadWith
import DW.Lemmas.Tagged

namespace DW.Props.C05
open DW

/-- where the value of a field comes from when the document did not provide it -/
def fromDefault (ci : ClassInfo) (n : S) (v : PyVal) : Prop :=
  ∃ f ∈ ci.fields, f.name = n ∧ (f.dflt.map Dflt.toPy = some v ∨ f.postInit.map Lit.toPy = some v)

/-- the catch-all field: it receives the dictionary of unknown pairs -/
def catchAllOrigin (ci : ClassInfo) (n : S) : Prop := ∃ f ∈ ci.fields, f.isCatchAll = true ∧ f.name = n

/-- `NoneType` as a Union argument (the same predicate as `RT.isNoneTy` of the round trip) -/
def isNoneArg : Ty → Bool
  | .none => true
  | _ => false

/-- the value is the declared default of the NamedTuple field -/
def ntDefault (f : S × Ty × Option Dflt) (x : PyVal) : Prop := f.2.2.map Dflt.toPy = some x

/-- the fragment of the type grammar covered by `C05_sound` -/
inductive Frag : Ty → Prop
  | scalar (t : Ty) : isScalarTy t = true → Frag t
  | any : Frag .any
  | optional (t : Ty) : Frag t → Frag (.optional t)
  | seq (k : SeqKind) (t : Ty) : Frag t → Frag (.seq k t)
  | vtuple (t : Ty) : Frag t → Frag (.vtuple t)
  | map (k : MapKind) (kt vt : Ty) : Frag kt → Frag vt → Frag (.map k kt vt)
  | cls (ci : ClassInfo) (ftys : List (S × Ty)) : (∀ p ∈ ftys, Frag p.2) → Frag (.cls ci ftys)
  | union (ts : List Ty) : (∀ t ∈ ts, isNoneArg t = false → Frag t) → Frag (.union ts)
  | tuple (ts : List Ty) : ts ≠ [] → (∀ t ∈ ts, acceptsNone t = false) → (∀ t ∈ ts, Frag t) → Frag (.tuple ts)
  | typeddict (name : S) (fields : List (S × Ty × Bool)) : (fields.map (·.1)).Nodup → (∀ f ∈ fields, Frag f.2.1) →
      Frag (.typeddict name fields)
  | ntuple (name : S) (fields : List (S × Ty × Option Dflt)) : (fields.map (·.1)).Nodup → (∀ f ∈ fields, Frag f.2.1) →
      Frag (.ntuple name fields)

/-- value `y` is an instance of type `t` (exact runtime types; fields not provided by the document hold their declared
default / `__post_init__` value, the catch-all field the captured pairs). `C` is the engine's conformance test at scalar
types, where the two engines differ: `conformsScalar` (default), `conformsScalarV1` -/
inductive Sound (C : Ty → PyVal → Bool) : Ty → PyVal → Prop
  | scalar (t : Ty) (y : PyVal) : C t y = true → Sound C t y
  | any (y : PyVal) : Sound C .any y
  | optNone (t : Ty) : Sound C (.optional t) .none
  | optSome (t : Ty) (y : PyVal) : Sound C t y → Sound C (.optional t) y
  | seq (k : SeqKind) (t : Ty) (xs : List PyVal) : (∀ x ∈ xs, Sound C t x) → Sound C (.seq k t) (.seq k xs)
  | vtuple (t : Ty) (xs : List PyVal) : (∀ x ∈ xs, Sound C t x) → Sound C (.vtuple t) (.tuple xs)
  | map (k : MapKind) (kt vt : Ty) (kvs : List (PyVal × PyVal)) : (∀ p ∈ kvs, Sound C kt p.1) → (∀ p ∈ kvs, Sound C vt p.2) →
      Sound C (.map k kt vt) (.map k kvs)
  | inst (ci : ClassInfo) (ftys : List (S × Ty)) (fs : List (S × PyVal)) : fs.map (·.1) = ci.fields.map (·.name) →
      (∀ p ∈ fs, fromDefault ci p.1 p.2 ∨ catchAllOrigin ci p.1 ∨ (tyOf ftys p.1).isSome = true) →
      (∀ p ∈ fs, ∀ t, tyOf ftys p.1 = some t → ¬ fromDefault ci p.1 p.2 → ¬ catchAllOrigin ci p.1 → Sound C t p.2) →
      Sound C (.cls ci ftys) (.inst ci fs)
  | union (ts : List Ty) (t : Ty) (y : PyVal) : t ∈ ts → isNoneArg t = false → Sound C t y → Sound C (.union ts) y
  | unionNone (ts : List Ty) : ts.any isNoneArg = true → Sound C (.union ts) .none
  | tuple (ts : List Ty) (xs : List PyVal) : xs.length = ts.length → (∀ p ∈ ts.zip xs, Sound C p.1 p.2) →
      Sound C (.tuple ts) (.tuple xs)
  | typeddict (name : S) (fields : List (S × Ty × Bool)) (ps : List (PyVal × PyVal)) :
      (∀ p ∈ ps, ∃ f ∈ fields, p.1 = .str f.1) →
      (∀ p ∈ ps, ∀ f ∈ fields, p.1 = .str f.1 → Sound C f.2.1 p.2) →
      (∀ f ∈ fields, f.2.2 = true → ∃ p ∈ ps, p.1 = .str f.1) →
      Sound C (.typeddict name fields) (.map .dict ps)
  | ntuple (name : S) (fields : List (S × Ty × Option Dflt)) (xs : List PyVal) : xs.length = fields.length →
      (∀ p ∈ fields.zip xs, ¬ ntDefault p.1 p.2 → Sound C p.1.2.1 p.2) →
      Sound C (.ntuple name fields) (.ntuple name (fields.map (·.1)) xs)

variable {C : Ty → PyVal → Bool}

theorem dedupKeep_subset (xs : List PyVal) : ∀ x ∈ dedupKeep xs, x ∈ xs := by
  unfold dedupKeep
  refine List.foldlRecOn (motive := fun acc => ∀ x ∈ acc, x ∈ xs) xs _ (fun _ h => nomatch h) fun acc ha a hmem => ?_
  split
  · exact ha
  · exact List.forall_mem_append.2 ⟨ha, List.forall_mem_singleton.2 hmem⟩

theorem mkSeq_sound (t : Ty) (k : SeqKind) (ys : List PyVal) (hs : ∀ y ∈ ys, Sound C t y) :
    Post (mkSeq k ys) (Sound C (.seq k t)) := by
  have hd : ∀ k, Sound C (.seq k t) (.seq k (dedupKeep ys)) :=
    fun k => .seq k t _ fun x hx => hs x (dedupKeep_subset ys x hx)
  cases k <;> simp only [mkSeq]
  · exact .pure (.seq _ t ys hs)
  · exact .ite (fun _ => .pure (hd _)) fun _ => .error
  · exact .ite (fun _ => .pure (hd _)) fun _ => .error
  · exact .pure (.seq _ t ys hs)

theorem dictInsert_all (P Q : PyVal → Prop) (acc : List (PyVal × PyVal)) (k v : PyVal)
    (ha : ∀ p ∈ acc, P p.1 ∧ Q p.2) (hk : P k) (hv : Q v) : ∀ p ∈ dictInsert acc k v, P p.1 ∧ Q p.2 := by
  unfold dictInsert
  split
  · refine List.forall_mem_map.2 fun q hq => ?_
    split
    · exact ⟨(ha q hq).1, hv⟩
    · exact ha q hq
  · exact List.forall_mem_append.2 ⟨ha, List.forall_mem_singleton.2 ⟨hk, hv⟩⟩

theorem mkMap_sound (kt vt : Ty) (k : MapKind) (ps : List (PyVal × PyVal))
    (hs : ∀ p ∈ ps, Sound C kt p.1 ∧ Sound C vt p.2) : Post (mkMap k ps) (Sound C (.map k kt vt)) := by
  unfold mkMap
  refine .ite (fun _ => ?_) fun _ => .error
  have : ∀ p ∈ ps.foldl (fun acc p => dictInsert acc p.1 p.2) [], Sound C kt p.1 ∧ Sound C vt p.2 :=
    List.foldlRecOn ps _ (fun _ h => nomatch h) fun acc ha q hq => dictInsert_all _ _ acc q.1 q.2 ha (hs q hq).1 (hs q hq).2
  exact .pure (.map k kt vt _ (fun p hp => (this p hp).1) (fun p hp => (this p hp).2))

/-! ### dataclasses

The per-field loader over an arbitrary element loader `L` (`fieldWith_post`) and `cls(**kw)` (`finishKw_sound`) serve both
engines; `finishClass_sound` and `loadJunkKeys_sound` are the default engine's last step and junk inputs. -/

theorem fieldWith_post {L : Ty → JVal → LRes} {P : Ty → PyVal → Prop} {ftys : List (S × Ty)}
    (h : ∀ p ∈ ftys, ∀ o, Post (L p.2 o) (P p.2)) (f : S) (v : JVal) :
    Post (fieldWith L ftys f v) (fun y => ∃ t, tyOf ftys f = some t ∧ P t y) := by
  unfold fieldWith
  split
  · next t ht =>
    obtain ⟨p, hp, rfl⟩ := tyOf_mem ht
    exact (h p hp v).mono fun y hy => ⟨_, ht, hy⟩
  · exact .error

theorem finishKw_sound (ci : ClassInfo) (ftys : List (S × Ty)) (K : List (S × PyVal))
    (hK : ∀ p ∈ K, (∃ t, tyOf ftys p.1 = some t ∧ Sound C t p.2) ∨ catchAllOrigin ci p.1) :
    Post (finishKw ci K) (Sound C (.cls ci ftys)) := by
  intro x hx
  obtain ⟨_, fs, hb, rfl⟩ := Build.finishKw_ok_iff.mp hx
  obtain ⟨hn, ho⟩ := Build.buildFields_spec K ci.fields fs hb
  have horigin : ∀ p ∈ fs, (∃ t, tyOf ftys p.1 = some t ∧ Sound C t p.2) ∨ fromDefault ci p.1 p.2 ∨ catchAllOrigin ci p.1 := by
    intro p hp
    obtain ⟨f, hf, hpf, hv⟩ := ho p hp
    rcases Build.fieldValue_origin K f p.2 hv with h | h
    · exact (hK p (hpf ▸ h : (p.1, p.2) ∈ K)).imp id .inr
    · exact .inr (.inl ⟨f, hf, hpf.symm, h⟩)
  refine Sound.inst ci ftys fs hn ?_ ?_
  · intro p hp
    rcases horigin p hp with ⟨t, ht, _⟩ | h2 | h3
    · exact .inr (.inr (Option.isSome_iff_exists.2 ⟨t, ht⟩))
    · exact .inl h2
    · exact .inr (.inl h3)
  · intro p hp t ht hnd hnc
    rcases horigin p hp with ⟨t', ht', hs⟩ | h2 | h3
    · rw [ht] at ht'; cases ht'; exact hs
    · exact absurd h2 hnd
    · exact absurd h3 hnc

theorem withCatchAll_mem (ci : ClassInfo) (kw : List (S × PyVal)) (ca : List (PyVal × PyVal)) (p : S × PyVal)
    (hp : p ∈ withCatchAll ci kw ca) : p ∈ kw ∨ catchAllOrigin ci p.1 := by
  unfold withCatchAll at hp
  split at hp
  · exact .inl hp
  · next cf hcf =>
    split at hp
    · refine (List.mem_append.1 hp).imp id fun h => ?_
      exact ⟨cf, List.mem_of_find?_eq_some hcf, List.find?_some hcf, by rw [List.mem_singleton.1 h]⟩
    · exact .inl hp

theorem finishClass_sound (ci : ClassInfo) (ftys : List (S × Ty)) (kw : List (S × PyVal)) (ca : List (PyVal × PyVal))
    (o : JVal) (hkw : ∀ p ∈ kw, ∃ t, tyOf ftys p.1 = some t ∧ Sound C t p.2) :
    Post (finishClass ci kw ca o) (Sound C (.cls ci ftys)) :=
  finishKw_sound ci ftys _ fun p hp => (withCatchAll_mem ci kw ca p hp).imp (hkw p) id

theorem loadJunkKeys_sound (eff : MetaCfg) (ci : ClassInfo) (ftys : List (S × Ty)) (o : JVal) (xs : List JVal) :
    Post (loadJunkKeys eff ci o xs) (Sound C (.cls ci ftys)) := by
  induction xs with
  | nil => rw [loadJunkKeys]; exact finishClass_sound ci ftys [] [] o (fun _ h => nomatch h)
  | cons e rest ih =>
    unfold loadJunkKeys
    -- every branch is an error or goes on with the rest of the elements
    repeat' split
    all_goals first | exact .error | exact ih

/-! ### Unions: whatever a phase returns is the result of a member's loader -/

theorem isNoneArg_of_ne {t : Ty} (h : t = .none → False) : isNoneArg t = false := by
  unfold isNoneArg
  split
  · exact (h rfl).elim
  · rfl

/-- the loader's test for a declared `None` is `isNoneArg` written out -/
theorem unionNone_sound (ts : List Ty) (o : JVal)
    (h : (o.kind == .null && ts.any (fun t => match t with | .none => true | _ => false)) = true) : Sound C (.union ts) .none :=
  .unionNone ts (Bool.and_eq_true_iff.1 h).2

theorem loadUnionTry_post (std : Std) (cfg : Option MetaCfg) (o : JVal) {P : PyVal → Prop} (ts : List Ty)
    (hts : ∀ t ∈ ts, isNoneArg t = false → Post (loadD std cfg t o) P) (r : LRes) (h : loadUnionTry std cfg ts o = some r) :
    Post r P := by
  induction ts with
  | nil => rw [loadUnionTry] at h; cases h
  | cons t ts ih =>
    obtain ⟨ht, hts⟩ := List.forall_mem_cons.1 hts
    have ih := ih hts
    unfold loadUnionTry at h
    split at h
    · exact ih h
    · exact ih h
    · next _ hn =>
      split at h
      · cases h; exact .error
      · cases h; exact ht (isNoneArg_of_ne hn)
      · exact ih h

theorem loadTagged_post (std : Std) (cfg : Option MetaCfg) (tg : S) (o : JVal) {P : PyVal → Prop} (ts : List Ty)
    (h : ∀ ci ftys, Ty.cls ci ftys ∈ ts → Post (loadD std cfg (.cls ci ftys) o) P) : Post (loadTagged std cfg tg ts o) P := by
  rw [Tagged.loadTagged_eq_pick]
  split
  · next ci ftys hp => exact h ci ftys (Tagged.pick_mem cfg tg ci ftys ts hp)
  · exact .error

/-! ### element lists by position and by key: tuples, TypedDict, NamedTuple -/

theorem forall_zip_cons {α β : Type} {Q : α × β → Prop} {a : α} {b : β} {l : List α} {r : List β} (h : Q (a, b))
    (hr : ∀ p ∈ l.zip r, Q p) : ∀ p ∈ (a :: l).zip (b :: r), Q p :=
  List.forall_mem_cons.2 ⟨h, hr⟩

theorem loadZip_post (std : Std) (cfg : Option MetaCfg) {P : Ty → PyVal → Prop} (ts : List Ty) (xs : List JVal)
    (h : ∀ t ∈ ts, ∀ o, Post (loadD std cfg t o) (P t)) (hl : ts.length ≤ xs.length) :
    Post (loadZip std cfg ts xs) (fun ys => ys.length = ts.length ∧ ∀ p ∈ ts.zip ys, P p.1 p.2) := by
  induction ts generalizing xs with
  | nil => unfold loadZip; exact .pure ⟨rfl, fun _ h => nomatch h⟩
  | cons t ts ih =>
    obtain ⟨ht, hts⟩ := List.forall_mem_cons.1 h
    cases xs with
    | nil => cases hl
    | cons x xs =>
      unfold loadZip
      exact .bind (ht x) fun y hy => .bind (ih xs hts (Nat.le_of_succ_le_succ hl)) fun ys ⟨h1, h2⟩ =>
        .pure ⟨congrArg (· + 1) h1, forall_zip_cons hy h2⟩

theorem jLen_jIter (o : JVal) (n : Nat) (xs : List JVal) (h1 : jLen o = some n) (h2 : jIter o = some xs) : xs.length = n := by
  cases o <;> simp [jLen, jIter] at h1 h2 <;> (subst h1; subst h2; simp)

theorem tdWith_post {L : Ty → JVal → LRes} {P : Ty → PyVal → Prop} (kvs : List (S × JVal)) (fields : List (S × Ty × Bool))
    (h : ∀ f ∈ fields, ∀ o, Post (L f.2.1 o) (P f.2.1)) :
    Post (tdWith L fields kvs) (fun ps => (∀ p ∈ ps, ∃ f ∈ fields, p.1 = .str f.1 ∧ P f.2.1 p.2) ∧
      (∀ f ∈ fields, f.2.2 = true → ∃ p ∈ ps, p.1 = .str f.1)) := by
  induction fields with
  | nil => rw [tdWith]; exact .pure ⟨fun _ h => (nomatch h), fun _ h => (nomatch h)⟩
  | cons f r ih =>
    obtain ⟨hf, hr⟩ := List.forall_mem_cons.1 h
    have ihr := ih hr
    rw [tdWith]
    split
    · next v _ =>
      exact .bind (hf v) fun y hy => .bind ihr fun ys ⟨h1, h2⟩ => .pure
        ⟨List.forall_mem_cons.2 ⟨⟨f, List.mem_cons_self .., rfl, hy⟩, fun p hp => Build.exists_mem_cons_of_exists (h1 p hp)⟩,
         List.forall_mem_cons.2 ⟨fun _ => ⟨_, List.mem_cons_self .., rfl⟩, fun f hf hreq => Build.exists_mem_cons_of_exists (h2 f hf hreq)⟩⟩
    · exact .ite (fun _ => .error) fun hreq => ihr.mono fun ps ⟨h1, h2⟩ =>
        ⟨fun p hp => Build.exists_mem_cons_of_exists (h1 p hp), List.forall_mem_cons.2 ⟨fun h => absurd h hreq, h2⟩⟩

theorem tdWith_sound {L : Ty → JVal → LRes} (name : S) (fields : List (S × Ty × Bool)) (hnd : (fields.map (·.1)).Nodup)
    (ih : ∀ f ∈ fields, ∀ o, Post (L f.2.1 o) (Sound C f.2.1)) (kvs : List (S × JVal)) :
    Post (tdWith L fields kvs) (fun ps => Sound C (.typeddict name fields) (.map .dict ps)) :=
  (tdWith_post kvs fields ih).mono fun ps ⟨h1, h2⟩ => by
    refine .typeddict name fields ps (fun p hp => ?_) (fun p hp f hf hk => ?_) h2
    · obtain ⟨f, hf, hk, _⟩ := h1 p hp; exact ⟨f, hf, hk⟩
    · obtain ⟨f', hf', hk', hs⟩ := h1 p hp
      -- key names are pairwise different, so `f'` is `f`
      have : f' = f := DW.Lemmas.V1.eq_of_name_eq (·.1) fields hnd f' f hf' hf (PyVal.str.inj (hk'.symm.trans hk))
      exact this ▸ hs

theorem tdJunk_returns (fields : List (S × Ty × Bool)) (o : JVal) :
    Post (tdJunk fields o) (fun y => y = .map .dict [] ∧ fields.any (fun f => f.2.2) = false) := by
  unfold tdJunk
  refine .ite (fun _ => .error) fun hany => ?_
  -- every further branch is a ParseError or returns the empty dict
  repeat' split
  all_goals first | exact .error | exact .pure ⟨rfl, Bool.eq_false_iff.2 hany⟩

theorem filterMap_defaults (rest : List (S × Ty × Option Dflt)) (h : rest.all (fun f => f.2.2.isSome) = true) :
    (rest.filterMap (fun f => f.2.2.map Dflt.toPy)).length = rest.length ∧
      ∀ p ∈ rest.zip (rest.filterMap (fun f => f.2.2.map Dflt.toPy)), ntDefault p.1 p.2 := by
  induction rest with
  | nil => exact ⟨rfl, fun _ h => nomatch h⟩
  | cons f r ih =>
    simp only [List.all_cons, Bool.and_eq_true] at h
    obtain ⟨d, hd⟩ := Option.isSome_iff_exists.1 h.1
    obtain ⟨h1, h2⟩ := ih h.2
    have hgf : f.2.2.map Dflt.toPy = some d.toPy := by rw [hd]; rfl
    rw [List.filterMap_cons, hgf]
    exact ⟨congrArg (· + 1) h1, forall_zip_cons hgf h2⟩

theorem ntuple_prefix_sound (name : S) (fields : List (S × Ty × Option Dflt)) (ys : List PyVal) (hle : ys.length ≤ fields.length)
    (hs : ∀ p ∈ fields.zip ys, Sound C p.1.2.1 p.2) (hall : (fields.drop ys.length).all (fun f => f.2.2.isSome) = true) :
    Sound C (.ntuple name fields) (.ntuple name (fields.map (·.1))
      (ys ++ (fields.drop ys.length).filterMap (fun f => f.2.2.map Dflt.toPy))) := by
  obtain ⟨hd1, hd2⟩ := filterMap_defaults (fields.drop ys.length) hall
  have htl : (fields.take ys.length).length = ys.length := List.length_take_of_le hle
  refine .ntuple name fields _ (by simp [hd1]; omega) fun p hp hnd' => ?_
  -- split the zip at the end of the loaded prefix
  have hz := List.zip_append (r₁ := fields.drop ys.length)
    (r₂ := (fields.drop ys.length).filterMap (fun f : S × Ty × Option Dflt => f.2.2.map Dflt.toPy)) htl
  rw [List.take_append_drop] at hz
  rw [hz] at hp
  rcases List.mem_append.1 hp with hp | hp
  · refine hs p ?_
    rwa [List.zip_eq_zip_take_min, Nat.min_eq_right hle, List.take_length]
  · exact absurd (hd2 p hp) hnd'

theorem loadNtList_post (std : Std) (cfg : Option MetaCfg) {P : Ty → PyVal → Prop}
    (fields : List (S × Ty × Option Dflt)) (xs : List JVal) (h : ∀ f ∈ fields, ∀ o, Post (loadD std cfg f.2.1 o) (P f.2.1)) :
    Post (loadNtList std cfg fields xs) (fun ys => ys.length ≤ fields.length ∧ ∀ p ∈ fields.zip ys, P p.1.2.1 p.2) := by
  induction fields generalizing xs with
  | nil => rw [loadNtList]; exact .pure ⟨Nat.le_refl _, fun _ h => nomatch h⟩
  | cons f fs ih =>
    obtain ⟨hf, hfs⟩ := List.forall_mem_cons.1 h
    cases xs with
    | nil => rw [loadNtList]; exact .pure ⟨Nat.zero_le _, fun _ h => nomatch h⟩
    | cons x xs =>
      rw [loadNtList]
      exact .bind (hf x) fun y hy => .bind (ih xs hfs) fun ys ⟨h1, h2⟩ =>
        .pure ⟨Nat.succ_le_succ h1, forall_zip_cons hy h2⟩

theorem loadNtField_post (std : Std) (cfg : Option MetaCfg) (k : S) (v : JVal) {P : Ty → PyVal → Prop}
    (fields : List (S × Ty × Option Dflt)) (h : ∀ f ∈ fields, ∀ o, Post (loadD std cfg f.2.1 o) (P f.2.1)) :
    Post (loadNtField std cfg k v fields) (fun y => ∃ f ∈ fields, f.1 = k ∧ P f.2.1 y) := by
  induction fields with
  | nil => rw [loadNtField]; exact .error
  | cons f r ih =>
    obtain ⟨hf, hr⟩ := List.forall_mem_cons.1 h
    rw [loadNtField]
    split
    · next hn => exact (hf v).mono fun y hy => ⟨_, List.mem_cons_self .., eq_of_beq hn, hy⟩
    · exact (ih hr).mono fun _ => Build.exists_mem_cons_of_exists

/-- `base_type(**kwargs)`: every element is a supplied keyword value for that field, or the field's default -/
theorem ntFill_spec (vals : List (S × PyVal)) (L : List (S × Option Dflt)) : Post (ntFill vals L) (fun xs =>
    xs.length = L.length ∧ ∀ p ∈ L.zip xs, (∃ q ∈ vals, q.1 = p.1.1 ∧ q.2 = p.2) ∨ p.1.2.map Dflt.toPy = some p.2) := by
  induction L with
  | nil => rw [ntFill]; exact .pure ⟨rfl, fun _ h => nomatch h⟩
  | cons f r ih =>
    obtain ⟨n, d⟩ := f
    unfold ntFill
    split
    · next p hfind =>
      have hk : (p.1 == n) = true := List.find?_some (p := fun q : S × PyVal => q.1 == n) hfind
      exact .bind ih fun rest ⟨h1, h2⟩ => .pure ⟨congrArg (· + 1) h1,
        forall_zip_cons (.inl ⟨p, List.mem_reverse.1 (List.mem_of_find?_eq_some hfind), eq_of_beq hk, rfl⟩) h2⟩
    · exact .bind ih fun rest ⟨h1, h2⟩ => .pure ⟨congrArg (· + 1) h1, forall_zip_cons (.inr rfl) h2⟩
    · exact .error

theorem sound (std : Std) (cfg : Option MetaCfg) (t : Ty) (hf : Frag t) : ∀ (o : JVal) (y : PyVal),
    loadD std cfg t o = .ok y → Sound conformsScalar t y := by
  show ∀ o, Post (loadD std cfg t o) (Sound conformsScalar t)
  induction hf with
  | scalar t ht => exact fun o y h => .scalar t y (sound_scalar std cfg t ht o y h)
  | any => exact fun o y _ => .any y
  | optional t _ ih =>
    intro o; unfold loadD; split
    · exact .pure (.optNone t)
    · exact (ih o).mono (.optSome t)
  | seq k t _ ih =>
    intro o; unfold loadD; split
    · exact .error
    · exact .bind (.mapME fun x _ => ih x) (mkSeq_sound t k)
  | vtuple t _ ih =>
    intro o; unfold loadD; split
    · exact .error
    · exact .bind (.mapME fun x _ => ih x) fun ys hys => .pure (.vtuple t ys hys)
  | map k kt vt _ _ ihk ihv =>
    intro o; unfold loadD; split
    · exact .bind (.mapME fun kv _ => .bind (ihk _) fun _ hk => .bind (ihv _) fun _ hv => .pure ⟨hk, hv⟩) (mkMap_sound kt vt k)
    · exact .error
  | cls ci ftys _ ih =>
    intro o; unfold loadD loadClassWith
    have hFL : ∀ f v, Post (loadField std cfg f v ftys) (fun z => ∃ t, tyOf ftys f = some t ∧ Sound conformsScalar t z) :=
      fun f v => loadField_eq std cfg f v ftys ▸ fieldWith_post ih f v
    split
    · exact .error
    · exact .bind (KeyLoop.loadKeysWith_post hFL _ ci _) fun ⟨kw, ca⟩ h => finishClass_sound ci ftys kw ca _ h
    · exact loadJunkKeys_sound _ ci ftys _ _
    · exact loadJunkKeys_sound _ ci ftys _ _
    · exact .error
  | union ts _ ih =>
    intro o; unfold loadD
    have hmem : ∀ t ∈ ts, isNoneArg t = false → Post (loadD std cfg t o) (Sound conformsScalar (.union ts)) :=
      fun t ht hn => (ih t ht hn o).mono fun y => .union ts t y ht hn
    refine .ite (fun hc => .pure (unionNone_sound ts o hc)) fun _ => ?_
    split
    · next r hr => exact loadUnionTry_post std cfg o ts hmem r hr
    · -- no member claimed the value: tag dispatch over the dataclass members, every other branch raises
      split
      · dsimp only
        repeat' split
        all_goals first | exact .error | exact loadTagged_post std cfg _ _ ts fun ci ftys hm => hmem _ hm rfl
      · exact .error
  | tuple ts hne hacc _ ih =>
    intro o; unfold loadD; split
    · next n xs hn hx =>
      have hreq : (ts.filter (fun t => !acceptsNone t)).length = ts.length := by
        rw [List.filter_eq_self.2 fun t ht => by rw [hacc t ht]; rfl]
      rw [hreq, if_neg (mt List.isEmpty_iff.1 hne)]
      refine .ite (fun hc => ?_) fun _ => .error
      have hle : ts.length ≤ xs.length := by
        rw [jLen_jIter o n xs hn hx]; exact of_decide_eq_true (Bool.and_eq_true_iff.1 hc).1
      exact .bind (loadZip_post std cfg ts xs ih hle) fun ys ⟨h1, h2⟩ => .pure (.tuple ts ys h1 h2)
    · exact .error
  | typeddict name fields hnd _ ih =>
    intro o; unfold loadD; split
    · next kvs =>
      rw [loadTd_eq]
      have := tdWith_sound name fields hnd ih kvs
      split
      · next ps hps => exact .pure (this ps hps)
      · exact .ite (fun _ => .error) fun _ => .error
      · exact .error
    · exact (tdJunk_returns fields o).mono fun y ⟨hy, hany⟩ => hy ▸ .typeddict name fields [] (fun _ h => nomatch h)
        (fun _ h => nomatch h) fun f hf hr => absurd hr (List.any_eq_false.1 hany f hf)
  | ntuple name fields hnd _ ih =>
    intro o; unfold loadD; split
    · next kvs =>
      refine .bind (.mapME (P := fun q : S × PyVal => ∃ f ∈ fields, f.1 = q.1 ∧ Sound conformsScalar f.2.1 q.2) fun kv _ =>
        .bind (loadNtField_post std cfg kv.1 kv.2 fields ih) fun y hy => .pure hy) fun vals hA => ?_
      refine .bind (ntFill_spec vals _) fun xs ⟨h1, h2⟩ => .pure ?_
      refine .ntuple name fields xs (by rw [h1, List.length_map]) fun p hp hnd' => ?_
      have hp' : ((p.1.1, p.1.2.2), p.2) ∈ (fields.map (fun f => (f.1, f.2.2))).zip xs := by
        rw [List.zip_map_left]; exact List.mem_map_of_mem hp
      rcases h2 _ hp' with ⟨q, hq, hk, hv⟩ | hdef
      · obtain ⟨f, hf, hfk, hs⟩ := hA q hq
        -- field names are pairwise different, so the keyword value was loaded at this field's type
        have : f = p.1 := DW.Lemmas.V1.eq_of_name_eq (·.1) fields hnd f p.1 hf (List.of_mem_zip hp).1 (hfk.trans hk)
        exact hv ▸ this ▸ hs
      · exact absurd hdef hnd'
    · split
      · exact .error
      · exact .bind (loadNtList_post std cfg fields _ ih) fun ys ⟨hle, hs⟩ =>
          .ite (fun hall => .pure (ntuple_prefix_sound name fields ys hle hs hall)) fun _ => .error

end DW.Props.C05
