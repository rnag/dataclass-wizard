/-
C04 (v1 and EnvWizard parts): `mapME` (element-wise lifting), the string splitting functions of `as_list` / `as_dict`,
and the nesting contexts of the position-independence theorems.
-/
import DW.Model.LoadV1
import DW.Model.EnvLoad
import DW.Lemmas.Except

namespace DW.Lemmas.C04
open DW DW.Str

theorem mapME_nil {α β} (f : α → Except LErr β) : mapME f [] = .ok [] := rfl

theorem mapME_cons {α β} (f : α → Except LErr β) (x : α) (xs : List α) :
    mapME f (x :: xs) = (f x >>= fun y => mapME f xs >>= fun ys => pure (y :: ys)) := rfl

inductive Pointwise {α β} (R : α → β → Prop) : List α → List β → Prop
  | nil : Pointwise R [] []
  | cons {x y xs ys} : R x y → Pointwise R xs ys → Pointwise R (x :: xs) (y :: ys)

theorem Pointwise.length_eq {α β} {R : α → β → Prop} {xs : List α} {ys : List β} (h : Pointwise R xs ys) :
    xs.length = ys.length := by
  induction h with
  | nil => rfl
  | cons _ _ ih => simp [ih]

theorem mapME_ok_iff {α β} (f : α → Except LErr β) (xs : List α) (ys : List β) :
    mapME f xs = .ok ys ↔ Pointwise (fun x y => f x = .ok y) xs ys := by
  induction xs generalizing ys with
  | nil => exact ⟨fun h => by cases h; exact .nil, fun h => by cases h; rfl⟩
  | cons x xs ih =>
    rw [mapME_cons]
    constructor
    · intro h
      obtain ⟨y, hx, h⟩ := Except.bind_eq_ok.1 h
      obtain ⟨r, hr, h⟩ := Except.bind_eq_ok.1 h
      cases h
      exact .cons hx ((ih r).1 hr)
    · rintro (_ | ⟨hx, hr⟩)
      rw [hx, (ih _).2 hr]
      rfl

theorem mapME_length {α β} (f : α → Except LErr β) (xs : List α) (ys : List β) (h : mapME f xs = .ok ys) :
    ys.length = xs.length :=
  ((mapME_ok_iff f xs ys).1 h).length_eq.symm

theorem mapME_error_of_first {α β} (f : α → Except LErr β) (pre : List α) (x : α) (post : List α) (e : LErr)
    (hpre : ∀ a ∈ pre, ∃ b, f a = .ok b) (hx : f x = .error e) :
    mapME f (pre ++ x :: post) = .error e := by
  induction pre with
  | nil => rw [List.nil_append, mapME_cons, hx]; rfl
  | cons a pre ih =>
    obtain ⟨⟨b, hb⟩, hr⟩ := List.forall_mem_cons.1 hpre
    rw [List.cons_append, mapME_cons, hb, ih hr]
    rfl

theorem mapME_congr {α β} (f g : α → Except LErr β) (xs : List α) (h : ∀ x ∈ xs, f x = g x) :
    mapME f xs = mapME g xs := by
  induction xs with
  | nil => rfl
  | cons x xs ih =>
    obtain ⟨hx, hr⟩ := List.forall_mem_cons.1 h
    rw [mapME_cons, mapME_cons, hx, ih hr]

theorem mapME_map {α β γ} (f : β → Except LErr γ) (g : α → β) (xs : List α) :
    mapME f (xs.map g) = mapME (fun x => f (g x)) xs := by
  induction xs with
  | nil => rfl
  | cons x xs ih => simp [mapME, ih]

theorem mapME_singleton_bind {α β γ} (f : α → Except LErr β) (x : α) (g : List β → Except LErr γ) :
    (mapME f [x] >>= g) = (f x >>= fun y => g [y]) := by
  rw [mapME_cons]
  cases f x <;> rfl

theorem splitOn_ne_nil (sep : Char) (s : S) : splitOn sep s ≠ [] := by
  cases s with
  | nil => simp [splitOn]
  | cons c r =>
    simp only [splitOn]
    split
    · simp
    · cases splitOn sep r <;> simp [consHead]

theorem joinSep_splitOn (sep : Char) (s : S) : joinSep sep (splitOn sep s) = s := by
  induction s with
  | nil => rfl
  | cons c r ih =>
    rw [splitOn]
    cases hsp : splitOn sep r with
    | nil => exact absurd hsp (splitOn_ne_nil sep r)
    | cons p ps =>
      rw [hsp] at ih
      split
      next hc => rw [hc, ← ih]; rfl
      next => cases ps <;> exact congrArg (c :: ·) ih

theorem splitOn_noSep (sep : Char) (s : S) (h : sep ∉ s) : splitOn sep s = [s] := by
  induction s with
  | nil => rfl
  | cons c r ih =>
    obtain ⟨hc, hr⟩ := List.ne_and_not_mem_of_not_mem_cons h
    simp [splitOn, hc.symm, ih hr, consHead]

theorem splitOn_append_sep (sep : Char) (a b : S) (h : sep ∉ a) :
    splitOn sep (a ++ sep :: b) = a :: splitOn sep b := by
  induction a with
  | nil => simp [splitOn]
  | cons c r ih =>
    obtain ⟨hc, hr⟩ := List.ne_and_not_mem_of_not_mem_cons h
    simp [splitOn, hc.symm, ih hr, consHead]

theorem splitOn_joinSep (sep : Char) (xs : List S) (hne : xs ≠ []) (h : ∀ x ∈ xs, sep ∉ x) :
    splitOn sep (joinSep sep xs) = xs := by
  induction xs with
  | nil => exact absurd rfl hne
  | cons x r ih =>
    obtain ⟨hx, hr⟩ := List.forall_mem_cons.1 h
    cases r with
    | nil => exact splitOn_noSep sep x hx
    | cons y r' => rw [joinSep, splitOn_append_sep sep x _ hx, ih (List.cons_ne_nil y r') hr]

theorem splitOn_length_le (sep : Char) (s : S) : (splitOn sep s).length ≤ s.length + 1 := by
  induction s with
  | nil => simp [splitOn]
  | cons c r ih =>
    rw [splitOn]
    split
    · exact Nat.succ_le_succ ih
    · cases hsp : splitOn sep r with
      | nil => simp [consHead]
      | cons p ps => rw [hsp] at ih; exact Nat.le_succ_of_le ih

theorem partitionAt_noSep (sep : Char) (s : S) (h : sep ∉ s) : partitionAt sep s = (s, none) := by
  induction s with
  | nil => rfl
  | cons c r ih =>
    obtain ⟨hc, hr⟩ := List.ne_and_not_mem_of_not_mem_cons h
    simp [partitionAt, hc.symm, ih hr]

theorem partitionAt_append_sep (sep : Char) (k v : S) (h : sep ∉ k) :
    partitionAt sep (k ++ sep :: v) = (k, some v) := by
  induction k with
  | nil => simp [partitionAt]
  | cons c r ih =>
    obtain ⟨hc, hr⟩ := List.ne_and_not_mem_of_not_mem_cons h
    simp [partitionAt, hc.symm, ih hr]

theorem noDot_of_allDigits (s : S) (h : s.all isDig = true) : '.' ∉ s := by
  intro hm
  exact absurd (List.all_eq_true.1 h '.' hm) (by decide)

/-! ### nesting contexts

A context is a list of layers, outermost first.  Each layer wraps a type, embeds a document as the single
element / value of that layer, and lifts the result of the inner load. -/

inductive Layer
  | seq (k : SeqKind)
  | vtuple
  | mapVal (mk : MapKind) (key : S)
  | opt
  deriving Repr

def Layer.wrapTy : Layer → Ty → Ty
  | .seq k, t => .seq k t
  | .vtuple, t => .vtuple t
  | .mapVal mk _, t => .map mk .str t
  | .opt, t => .optional t

def Layer.wrapDoc : Layer → JVal → JVal
  | .seq _, v => .list [v]
  | .vtuple, v => .list [v]
  | .mapVal _ key, v => .dict [(key, v)]
  | .opt, v => v

def wrapTys : List Layer → Ty → Ty
  | [], t => t
  | l :: ls, t => l.wrapTy (wrapTys ls t)

def wrapDocs : List Layer → JVal → JVal
  | [], v => v
  | l :: ls, v => l.wrapDoc (wrapDocs ls v)

/-- every `Optional[...]` layer sits above a non-null document (an Optional directly above a null leaf keeps None) -/
def optOk : List Layer → JVal → Bool
  | [], _ => true
  | .opt :: ls, v => (wrapDocs ls v).kind != .null && optOk ls v
  | _ :: ls, v => optOk ls v

theorem optOk_cons (l : Layer) (ls : List Layer) (v : JVal) :
    optOk (l :: ls) v = true ↔ (l = .opt → (wrapDocs ls v).kind ≠ .null) ∧ optOk ls v = true := by
  cases l <;> simp [optOk]

theorem wrapDoc_container_kind (l : Layer) (v : JVal) (h : match l with | .opt => False | _ => True) :
    (l.wrapDoc v).kind ≠ .null := by
  cases l <;> simp [Layer.wrapDoc, JVal.kind] at h ⊢

/-- how the v1 engine lifts the result of the inner load through one layer -/
def Layer.liftV1 : Layer → LRes → LRes
  | .seq k, r => r >>= fun y => (mkSeq k [y]).mapError v1Wrap
  | .vtuple, r => r >>= fun y => pure (.tuple [y])
  | .mapVal mk key, r => r >>= fun y => (mkMap mk [(.str key, y)]).mapError v1Wrap
  | .opt, r => r

def liftsV1 (ls : List Layer) (r : LRes) : LRes := ls.foldr Layer.liftV1 r

/-- the same for the default-engine Parser classes used by `EnvLoader` (no error rewriting) -/
def Layer.liftE : Layer → LRes → LRes
  | .seq k, r => r >>= fun y => mkSeq k [y]
  | .vtuple, r => r >>= fun y => pure (.tuple [y])
  | .mapVal mk key, r => r >>= fun y => mkMap mk [(.str key, y)]
  | .opt, r => r

def liftsE : List Layer → LRes → LRes
  | [], r => r
  | l :: ls, r => l.liftE (liftsE ls r)

theorem liftsE_eq_foldr (ls : List Layer) (r : LRes) : liftsE ls r = ls.foldr Layer.liftE r := by
  induction ls with
  | nil => rfl
  | cons l ls ih => rw [liftsE, ih]; rfl

/-- Position independence for any loader `L`: if `L` commutes with each single layer it supports (`hL`; `ok` says which
layers those are), it commutes with every stack of them. -/
theorem nesting_of_layer (L : Ty → JVal → LRes) (lift : Layer → LRes → LRes) (ok : Layer → Prop)
    (hL : ∀ l t v, ok l → (l = .opt → v.kind ≠ .null) → L (l.wrapTy t) (l.wrapDoc v) = lift l (L t v))
    (t : Ty) (v : JVal) (ls : List Layer) (hok : ∀ l ∈ ls, ok l) (h : optOk ls v = true) :
    L (wrapTys ls t) (wrapDocs ls v) = ls.foldr lift (L t v) := by
  induction ls with
  | nil => rfl
  | cons l ls ih =>
    obtain ⟨hl, hls⟩ := List.forall_mem_cons.1 hok
    obtain ⟨hopt, hrest⟩ := (optOk_cons l ls v).1 h
    rw [wrapTys, wrapDocs, hL _ _ _ hl hopt, ih hls hrest]
    rfl

end DW.Lemmas.C04
