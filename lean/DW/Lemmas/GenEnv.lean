/-
Lemmas about the EnvWizard `__init__` generator model `DW/Model/GenEnv.lean`: the body is well scoped for every class - whatever the
fields are called, including names the template uses itself (a field is a parameter: it is bound from the start).
-/
import DW.Model.GenEnv
import DW.Lemmas.GenLoadPy

namespace DW.GenEnv
open DW.Names
open DW.GenLoad (Part Stmt Scope Flow t checkList checkParts checkElifs checkElse writesList writesElifs writesElse asNames
  safePrefixWrites checkList_append writesList_append DefaultKind readOk_of_mem)

/-- the names the body binds -/
def fixedW : List S := [t "_vars", t "_name", t "_env_var", t "_var_name", t "e"]

theorem mem_filter_self (l : List S) (n : S) : n ∈ l.filter l.contains ↔ n ∈ l := by
  simp [List.mem_filter]

theorem elsePart_writes (f : EField) : (elsePart f).writes = [] := by
  unfold elsePart; cases f.dflt <;> rfl

theorem writes_field (p : Char → Bool) (f : EField) : writesList (fieldStmts p f) = [t "_name", t "_env_var", t "_var_name"] := by
  simp [fieldStmts, writesList, Stmt.writes, writesElifs, writesElse, elsePart_writes]

theorem writes_allFields (p : Char → Bool) : ∀ (fs : List EField) (n : S), n ∈ writesList (allFieldStmts p fs) → n ∈ fixedW
  | [], n, h => by cases h
  | f :: r, n, h => by
    rw [allFieldStmts, writesList_append, writes_field, List.mem_append] at h
    rcases h with h | h
    · exact List.mem_cons_of_mem _ (List.mem_append_left [t "e"] h)
    · exact writes_allFields p r n h

theorem writes_head (g : EIn) : writesList (headStmts g) = [t "_vars"] := by
  obtain ⟨envFile, _, _, _⟩ := g
  cases envFile <;> rfl

theorem writes_fixed (p : Char → Bool) (g : EIn) : ∀ n ∈ writesList (genBody p g), n ∈ fixedW := by
  intro n hn
  simp only [genBody, writesList_append, List.mem_append, writes_head] at hn
  rcases hn with h | h | h
  · exact List.mem_append_left _ h
  · unfold fieldBlock at h
    cases hf : g.fields with
    | nil => rw [hf] at h; cases h
    | cons f r =>
      simp only [hf, writesList, Stmt.writes, asNames, handlerStmts, List.append_nil, List.mem_append] at h
      rcases h with (h | h) | h
      · exact writes_allFields p _ n h
      · simp at h; simp [fixedW, h]
      · cases h
  · cases h

/-- `n` is held by the closure or the globals of the generated function and is none of the names its body binds (it may still be the
name of a field, hence a parameter) -/
def Outer (g : EIn) (n : S) : Prop := n ∈ genLocals g ++ genGlobals g ∧ n ∉ fixedW

/-- an outside name is readable: when a field is called like it, the field is a parameter and bound from the start -/
theorem readOk_outer (p : Char → Bool) (g : EIn) (asg : List S) (n : S) (hp : ∀ m ∈ params g, m ∈ asg) (h : Outer g n) :
    (genScope p g).readOk asg n = true := by
  by_cases hl : n ∈ (genScope p g).locals
  · simp only [genScope, List.mem_append] at hl
    rcases hl with hl | hl
    · exact readOk_of_mem (hp n hl)
    · exact absurd (writes_fixed p g n hl) h.2
  · have ho : n ∈ (genScope p g).outer := h.1
    simp [Scope.readOk, hl, ho]

/-- the outside names the template reads whatever the class is (a plain list; `GenLoad.okFixed g` is the other generator's) -/
def okFixed : List S :=
  [t "Env", t "ParseError", t "get_env", t "lookup_exact", t "MissingVars", t "add", t "cls", t "handle_err", t "MISSING"]

/-- The two lists are the leading literal segments of `genLocals` / `genGlobals`; the second character is what tells `_tp_<f>`,
`_parser_<f>` and `_dflt_<f>` from the names the body binds.  `String.toList_ofList` keeps the literals out of the kernel
(`Names.map_ofList_eq`). -/
theorem name_tables :
    (∀ n ∈ okFixed, n ∉ fixedW ∧
      (n ∈ [t "Env", t "ParseError", t "field_names", t "get_env", t "lookup_exact"] ∨
        n ∈ [t "MissingVars", t "add", t "cls", t "fields_ordered", t "handle_err", t "MISSING"])) ∧
    t "_dotenv_values" ∉ fixedW ∧ ∀ X ∈ fixedW, X[1]? ≠ some 't' ∧ X[1]? ≠ some 'p' ∧ X[1]? ≠ some 'd' := by
  unfold okFixed fixedW t
  repeat rw [String.toList_ofList]
  decide +kernel

theorem outer_fixed (g : EIn) : ∀ n ∈ okFixed, Outer g n := by
  intro n hn
  obtain ⟨hf, h | h⟩ := name_tables.1 n hn
  · exact ⟨List.mem_append_left _ (List.mem_append_left _ (List.mem_append_left _ h)), hf⟩
  · exact ⟨List.mem_append_right _ (List.mem_append_left _ (List.mem_append_left _ (List.mem_append_left _ h))), hf⟩

theorem outer_dotenv (g : EIn) (h : g.envFile = true) : Outer g (t "_dotenv_values") :=
  ⟨List.mem_append_right _ (List.mem_append_left _ (List.mem_append_left _ (List.mem_append_right _ (by simp [h])))),
    name_tables.2.1⟩

theorem mem_fieldGlobals (g : EIn) (f : EField) (hf : f ∈ g.fields) (n : S) (hn : n ∈ fieldGlobals f) :
    n ∈ genLocals g ++ genGlobals g := by
  simp only [genGlobals, List.mem_append, List.mem_flatMap]
  exact Or.inr (Or.inr ⟨f, hf, hn⟩)

theorem tp_not_fixed (n : S) : tpName n ∉ fixedW := fun h =>
  (name_tables.2.2 _ h).1 (by rw [tpName, t, String.toList_ofList]; rfl)

theorem parser_not_fixed (n : S) : parserName n ∉ fixedW := fun h =>
  (name_tables.2.2 _ h).2.1 (by rw [parserName, t, String.toList_ofList]; rfl)

theorem dflt_not_fixed (n : S) : dfltName n ∉ fixedW := fun h =>
  (name_tables.2.2 _ h).2.2 (by rw [dfltName, t, String.toList_ofList]; rfl)

theorem outer_tp (g : EIn) (f : EField) (hf : f ∈ g.fields) : Outer g (tpName f.name) :=
  ⟨mem_fieldGlobals g f hf _ (by simp [fieldGlobals]), tp_not_fixed _⟩

theorem outer_parser (g : EIn) (f : EField) (hf : f ∈ g.fields) : Outer g (parserName f.name) :=
  ⟨mem_fieldGlobals g f hf _ (by simp [fieldGlobals]), parser_not_fixed _⟩

theorem outer_dflt (g : EIn) (f : EField) (hf : f ∈ g.fields) (hd : f.dflt ≠ .none) : Outer g (dfltName f.name) :=
  ⟨mem_fieldGlobals g f hf _ (by cases h : f.dflt <;> simp_all [fieldGlobals]), dflt_not_fixed _⟩

theorem outer_lookup (g : EIn) (f : EField) : Outer g (lookupFn f) := by
  unfold lookupFn
  cases f.var <;> exact outer_fixed g _ (by simp [okFixed])

theorem mem_params_fixed (g : EIn) (n : S) (h : n ∈ fixedParams) : n ∈ params g :=
  List.mem_append_left _ h

/-- every `if` of the head binds nothing, so both of its branches leave what was assigned and join to exactly that -/
theorem head_ok (p : Char → Bool) (g : EIn) (asg : List S) (hp : ∀ m ∈ params g, m ∈ asg) :
    checkList (genScope p g) asg (headStmts g) = some (some (t "_vars" :: asg)) := by
  have par := fun n hn => readOk_of_mem (sc := genScope p g) (hp n (mem_params_fixed g n hn))
  have out := fun n hn => readOk_outer p g asg n hp (outer_fixed g n hn)
  simp only [fixedParams, okFixed, List.forall_mem_cons] at par out
  cases he : g.envFile
  · simp [headStmts, he, envLine, checkList, Stmt.check, checkParts, checkElifs, checkElse, Scope.readsOk, par, out]
  · simp [headStmts, he, envLine, checkList, Stmt.check, checkParts, checkElifs, checkElse, Scope.readsOk, par, out,
      readOk_outer p g asg _ hp (outer_dotenv g he)]

/-- the result is the exact state: both branches of the field's `if` bind nothing, so they join by `Flow.meet_self` -/
theorem field_ok (p : Char → Bool) (g : EIn) (f : EField) (asg : List S) (hf : f ∈ g.fields) (hp : ∀ m ∈ params g, m ∈ asg)
    (hv : t "_vars" ∈ asg) :
    checkList (genScope p g) asg (fieldStmts p f) = some (some (t "_var_name" :: t "_env_var" :: t "_name" :: asg)) := by
  have hfn : f.name ∈ params g := List.mem_append_right _ (List.mem_map.2 ⟨f, hf, rfl⟩)
  have hpre : t "_env_prefix" ∈ asg := hp _ (mem_params_fixed g _ (by simp [fixedParams]))
  have hself : t "self" ∈ asg := hp _ (mem_params_fixed g _ (by simp [fixedParams]))
  have sub : ∀ n ∈ asg, n ∈ t "_var_name" :: t "_env_var" :: t "_name" :: asg := fun n hn => by simp [hn]
  have mem := fun n hn => readOk_of_mem (sc := genScope p g) (sub n hn)
  have outer := fun n => readOk_outer p g (t "_var_name" :: t "_env_var" :: t "_name" :: asg) n (fun m hm => sub m (hp m hm))
  have out := fun n hn => outer n (outer_fixed g n hn)
  simp only [okFixed, List.forall_mem_cons] at out
  have e1 : (genScope p g).readOk (t "_env_var" :: t "_name" :: asg) (t "_env_prefix") = true := readOk_of_mem (by simp [hpre])
  have hels : (elsePart f).reads.all ((genScope p g).readOk (t "_var_name" :: t "_env_var" :: t "_name" :: asg)) = true := by
    have od := fun h => outer _ (outer_dflt g f hf h)
    cases hd : f.dflt <;> simp [hd] at od <;>
      simp [elsePart, hd, od, out, mem _ hpre, mem _ hself, mem _ hv, outer _ (outer_tp g f hf), readOk_of_mem]
  simp [fieldStmts, checkList, Stmt.check, checkParts, checkElifs, checkElse, Scope.readsOk, condReads, hels, elsePart_writes, e1, out,
    mem _ (hp _ hfn), mem _ hself, outer _ (outer_lookup g f), outer _ (outer_parser g f hf), readOk_of_mem]

theorem fields_ok (p : Char → Bool) (g : EIn) : ∀ (fs : List EField) (asg : List S), (∀ f ∈ fs, f ∈ g.fields) →
    (∀ m ∈ params g, m ∈ asg) → t "_vars" ∈ asg →
    ∃ a, checkList (genScope p g) asg (allFieldStmts p fs) = some (some a) ∧ ∀ n ∈ asg, n ∈ a
  | [] => fun asg _ _ _ => ⟨asg, rfl, fun _ h => h⟩
  | f :: r => fun asg hfs hp hv => by
    have h1 := field_ok p g f asg (hfs f (by simp)) hp hv
    have s1 : ∀ n ∈ asg, n ∈ t "_var_name" :: t "_env_var" :: t "_name" :: asg := fun n hn => by simp [hn]
    obtain ⟨a2, h2, s2⟩ := fields_ok p g r _ (fun f' hf' => hfs f' (by simp [hf'])) (fun m hm => s1 m (hp m hm)) (s1 _ hv)
    exact ⟨a2, by simp only [allFieldStmts, checkList_append, h1, h2], fun n hn => s2 n (s1 n hn)⟩

/-- when the handler runs, `_name` and `_env_var` of the first field are bound -/
theorem block_ok (p : Char → Bool) (g : EIn) (asg : List S) (hp : ∀ m ∈ params g, m ∈ asg) (hv : t "_vars" ∈ asg) :
    ∃ a, checkList (genScope p g) asg (fieldBlock p g) = some (some a) ∧ ∀ n ∈ asg, n ∈ a := by
  unfold fieldBlock
  cases hfs : g.fields with
  | nil => exact ⟨asg, rfl, fun _ h => h⟩
  | cons f r =>
    obtain ⟨a1, h1, s1⟩ := fields_ok p g (f :: r) asg (fun f' hf' => by rw [hfs]; exact hf') hp hv
    have hsp : safePrefixWrites (allFieldStmts p (f :: r)) = [t "_name", t "_env_var"] := rfl
    have sub : ∀ n ∈ asg, n ∈ t "_name" :: t "_env_var" :: t "e" :: asg := fun n hn => by simp [hn]
    have out := fun n hn => readOk_outer p g _ n (fun m hm => sub m (hp m hm)) (outer_fixed g n hn)
    simp only [okFixed, List.forall_mem_cons] at out
    have re := readOk_outer p g asg _ hp (outer_fixed g (t "ParseError") (by simp [okFixed]))
    have hpre := readOk_of_mem (sc := genScope p g) (sub _ (hp _ (mem_params_fixed g (t "_env_prefix") (by simp [fixedParams]))))
    refine ⟨a1.filter (t "_name" :: t "_env_var" :: t "e" :: asg).contains, ?_, fun n hn => ?_⟩
    · simp [checkList, Stmt.check, checkParts, Scope.readsOk, re, h1, hsp, asNames, handlerStmts, out, hpre, readOk_of_mem, Flow.meet]
    · simp [List.mem_filter, s1 n hn, hn]

theorem tail_ok (p : Char → Bool) (g : EIn) (asg : List S) (hp : ∀ m ∈ params g, m ∈ asg) (hv : t "_vars" ∈ asg) :
    checkList (genScope p g) asg tailStmts = some (some asg) := by
  have out := fun n hn => readOk_outer p g asg n hp (outer_fixed g n hn)
  simp only [okFixed, List.forall_mem_cons] at out
  simp [tailStmts, checkList, Stmt.check, checkElifs, checkElse, Scope.readsOk, out, readOk_of_mem hv]

theorem wellScoped_all (p : Char → Bool) (g : EIn) : wellScoped p g = true := by
  unfold wellScoped genBody
  have h1 := head_ok p g (params g) (fun _ h => h)
  obtain ⟨a2, h2, s2⟩ := block_ok p g (t "_vars" :: params g) (fun m hm => List.mem_cons_of_mem _ hm) List.mem_cons_self
  have h3 := tail_ok p g a2 (fun m hm => s2 m (List.mem_cons_of_mem _ hm)) (s2 _ List.mem_cons_self)
  simp only [checkList_append, h1, h2, h3, Option.isSome_some]

theorem wellScopedPy_all (p : Char → Bool) (g : EIn) : wellScopedPy p g = true := by
  unfold wellScopedPy
  rw [DW.GenLoad.checkList_eq_py (genScope p g) (genBody p g) (params g) (fun _ => List.mem_append_left _)
    (fun _ => List.mem_append_right _)]
  exact wellScoped_all p g

theorem defsBound_all (g : EIn) : defsBound g = true := by
  refine List.all_eq_true.2 fun n hn => List.contains_iff_mem.2 ?_
  simp only [defReads, List.mem_append, List.mem_flatMap, List.mem_cons, List.not_mem_nil, or_false] at hn
  rcases hn with h | ⟨f, hf, h | h⟩
  · obtain ⟨hs, h⟩ := List.mem_ite_nil_right.1 h
    simp [genLocals, hs, List.mem_singleton.1 h]
  · rw [h]; exact mem_fieldGlobals g f hf _ (by simp [fieldGlobals])
  · rw [h]; exact (outer_fixed g _ (by simp [okFixed])).1

end DW.GenEnv
