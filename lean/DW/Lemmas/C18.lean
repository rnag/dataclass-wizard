/- Helper lemmas for C18: the lookup phase of the `Env` state machine on a state whose caches describe the
effective environment (`Ready`), and the invariant of its histories (`Coh`). -/
import DW.Model.C18
import DW.Lemmas.C18Dict

namespace DW.Env
open DW.Str

/-! ### what the lookup phase can do to the state: only fire the two cached properties -/

theorem getEnv_eq (rank : List S) (prio : Priority) (key : S) (st : EnvSt) :
    getEnv rank prio key st = match lookupExact (tiers prio key) st with
      | (.unset, st1) => tryCleaned rank key st1
      | r => r := by
  unfold getEnv lookupExact
  simp only
  cases (tiers prio key).find? (fun n => decide (n ∈ (forceVN st).virtVN)) with
  | none => rfl
  | some n =>
    -- `envVal` answers `val` or `keyError`, never `unset`
    simp only [envVal]
    cases dget n ((forceVN st).environ.getD []) <;> rfl

theorem tryCleaned_snd (rank : List S) (key : S) (st : EnvSt) : (tryCleaned rank key st).2 = forceCleaned rank st := by
  unfold tryCleaned
  simp only
  cases dget (clean key) ((forceCleaned rank st).cleaned.getD []) <;> rfl

theorem lookupExact_snd (names : List S) (st : EnvSt) : (lookupExact names st).2 = forceVN st := by
  unfold lookupExact
  simp only
  cases names.find? (fun n => decide (n ∈ (forceVN st).virtVN)) <;> rfl

section preserves
variable (P : EnvSt → Prop) (q : Quirks) (rank : List S) (hv : ∀ st, P st → P (forceVN st))
  (hc : ∀ st, P st → P (forceCleaned rank st))
include hv hc

theorem getEnv_preserves (prio : Priority) (key : S) (st : EnvSt) (h : P st) : P (getEnv rank prio key st).2 := by
  rw [getEnv_eq]
  have h1 : P (lookupExact (tiers prio key) st).2 := lookupExact_snd _ st ▸ hv st h
  split
  · next st1 hr =>
    rw [hr] at h1
    exact tryCleaned_snd rank key st1 ▸ hc st1 h1
  · exact h1

theorem lookupField_preserves (prio : Priority) (pfx : S) (f : FieldDef) (st : EnvSt) (h : P st) :
    P (lookupField q rank prio pfx f st).2 := by
  unfold lookupField
  split
  · exact getEnv_preserves P rank hv hc prio _ st h
  · have h1 : P (lookupExact (explicitArg q pfx f.explicit) st).2 := lookupExact_snd _ st ▸ hv st h
    simp only
    split
    · split
      · exact h1
      · exact getEnv_preserves P rank hv hc prio _ _ h1
    · exact h1

theorem resolveField_preserves (prio : Priority) (pfx : S) (kw : Dict) (f : FieldDef) (st : EnvSt) (h : P st) :
    P (resolveField q rank prio pfx kw f st).2 := by
  unfold resolveField
  split
  · exact h
  · have h1 := lookupField_preserves P q rank hv hc prio pfx f st h
    simp only
    split
    · exact h1
    · exact h1
    · split
      · exact h1
      · split
        · exact hc _ h1
        · exact h1

theorem resolveAll_preserves (prio : Priority) (pfx : S) (kw : Dict) (fields : List FieldDef) (st : EnvSt) (h : P st) :
    P (resolveAll q rank prio pfx kw fields st).2 := by
  induction fields generalizing st with
  | nil => exact h
  | cons f r ih => exact ih _ (resolveField_preserves P q rank hv hc prio pfx kw f st h)

end preserves

/-- the library state faithfully describes the effective environment `look` -/
structure Ready (look : S → Option S) (st : EnvSt) : Prop where
  env : ∃ e, st.environ = some e ∧ ∀ n, dget n e = look n
  vn : ∃ vn, st.varNames = some vn ∧ ∀ n, n ∈ vn ↔ (look n).isSome = true
  valid : ∀ cl, st.cleaned = some cl → ∀ p ∈ cl, p.1 = clean p.2 ∧ (look p.2).isSome = true
  complete : ∀ cl, st.cleaned = some cl → ∀ n, (look n).isSome = true → (dget (clean n) cl).isSome = true

theorem Ready.congr {look look' : S → Option S} {st : EnvSt} (e : ∀ n, look n = look' n) (h : Ready look st) :
    Ready look' st :=
  funext e ▸ h

theorem Ready.forceVN_eq {look : S → Option S} {st : EnvSt} (h : Ready look st) : forceVN st = st := by
  obtain ⟨vn, hvn, _⟩ := h.vn
  cases st
  cases hvn
  rfl

theorem Ready.virtVN_mem {look : S → Option S} {st : EnvSt} (h : Ready look st) (n : S) :
    n ∈ st.virtVN ↔ (look n).isSome = true := by
  obtain ⟨vn, hvn, hm⟩ := h.vn
  simp [EnvSt.virtVN, hvn, hm]

/-- the two cache fields of `Ready`, for a cache that is not yet stored in a state (`patch_cacheOK`) -/
structure CacheOK (look : S → Option S) (cl : Dict) : Prop where
  valid : ∀ p ∈ cl, p.1 = clean p.2 ∧ (look p.2).isSome = true
  complete : ∀ n, (look n).isSome = true → (dget (clean n) cl).isSome = true

theorem Ready.cache {look : S → Option S} {st : EnvSt} (h : Ready look st) {cl : Dict} (hc : st.cleaned = some cl) :
    CacheOK look cl :=
  ⟨h.valid cl hc, h.complete cl hc⟩

theorem Ready.of_cache {look : S → Option S} {st : EnvSt} (env : ∃ e, st.environ = some e ∧ ∀ n, dget n e = look n)
    (vn : ∃ vn, st.varNames = some vn ∧ ∀ n, n ∈ vn ↔ (look n).isSome = true)
    (hc : ∀ cl, st.cleaned = some cl → CacheOK look cl) : Ready look st :=
  ⟨env, vn, fun cl h => (hc cl h).valid, fun cl h => (hc cl h).complete⟩

theorem patch_cacheOK {look : S → Option S} {rank : List S} {cl : Dict} {vars : List S}
    (hvalid : ∀ p ∈ cl, p.1 = clean p.2 ∧ (look p.2).isSome = true)
    (hvars : ∀ v ∈ vars, (look v).isSome = true)
    (hcomplete : ∀ n, (look n).isSome = true → (dget (clean n) cl).isSome = true ∨ n ∈ vars) :
    CacheOK look (patch rank cl vars) := by
  refine ⟨fun p hp => ?_, fun n hn => ?_⟩
  · rcases mem_patch hp with hp | ⟨v, hv, rfl⟩
    · exact hvalid p hp
    · exact ⟨rfl, hvars v hv⟩
  · rcases hcomplete n hn with h | h
    · exact patch_mono h
    · exact patch_complete h

theorem Ready.forceCleaned {look : S → Option S} {st : EnvSt} (rank : List S) (h : Ready look st) :
    Ready look (forceCleaned rank st) ∧ (forceCleaned rank st).cleaned.isSome = true := by
  unfold DW.Env.forceCleaned
  cases hc : st.cleaned with
  | some cl => exact ⟨h, by simp [hc]⟩
  | none =>
    simp only
    rw [h.forceVN_eq]
    refine ⟨Ready.of_cache h.env h.vn fun cl hcl => ?_, by simp⟩
    cases hcl
    exact patch_cacheOK (fun p hp => nomatch hp) (fun v hv => (h.virtVN_mem v).mp hv)
      (fun n hn => Or.inr ((h.virtVN_mem n).mpr hn))

theorem Ready.envVal_some {look : S → Option S} {st : EnvSt} (h : Ready look st) {n v : S} (hl : look n = some v) :
    envVal st n = .val v := by
  obtain ⟨e, he, hle⟩ := h.env
  simp [DW.Env.envVal, he, hle, hl]

theorem virtVN_forceVN (st : EnvSt) : (forceVN st).virtVN = st.virtVN := by
  simp [forceVN, EnvSt.virtVN]

theorem forceVN_forceCleaned (rank : List S) (st : EnvSt) :
    forceVN (forceCleaned rank st) = forceCleaned rank (forceVN st) := by
  unfold forceCleaned
  cases hc : st.cleaned <;> simp [forceVN, EnvSt.virtVN, hc]

/-- `Ready` once `var_names` has fired, which every lookup makes it do first -/
def Live (look : S → Option S) (st : EnvSt) : Prop := Ready look (forceVN st)

theorem Ready.live {look : S → Option S} {st : EnvSt} (h : Ready look st) : Live look st :=
  h.forceVN_eq.symm ▸ h

theorem Live.congr {look look' : S → Option S} {st : EnvSt} (e : ∀ n, look n = look' n) (h : Live look st) :
    Live look' st :=
  Ready.congr e h

theorem live_forceVN {look : S → Option S} {st : EnvSt} (h : Live look st) : Live look (forceVN st) :=
  Ready.live h

theorem live_forceCleaned {look : S → Option S} {st : EnvSt} (rank : List S) (h : Live look st) :
    Live look (forceCleaned rank st) := by
  unfold Live
  rw [forceVN_forceCleaned]
  exact (Ready.forceCleaned rank h).1

/-- what a cleaned-key lookup may return -/
def Got.sound (look : S → Option S) (key : S) : Got → Prop
  | .val v => ∃ n, clean n = clean key ∧ look n = some v
  | .unset => ∀ n, clean n = clean key → look n = none
  | .keyError => False

theorem tryCleaned_spec {look : S → Option S} {st : EnvSt} (rank : List S) (key : S) (h : Ready look st) :
    (tryCleaned rank key st).1.sound look key := by
  obtain ⟨h1, hs⟩ := h.forceCleaned rank
  obtain ⟨cl, hc⟩ := Option.isSome_iff_exists.mp hs
  unfold tryCleaned
  simp only [hc, Option.getD_some]
  cases hd : dget (clean key) cl with
  | none =>
    intro n hn
    simpa [hn, hd] using mt (h1.complete cl hc n)
  | some v =>
    obtain ⟨hk, hv⟩ := h1.valid cl hc _ (dget_some_mem hd)
    obtain ⟨x, hl⟩ := Option.isSome_iff_exists.mp hv
    simp only [h1.envVal_some hl]
    exact ⟨v, hk.symm, hl⟩

theorem findSome_eq_find {look : S → Option S} {vn : List S} (hvn : ∀ n, n ∈ vn ↔ (look n).isSome = true) (l : List S) :
    l.findSome? look = (l.find? (fun n => decide (n ∈ vn))).bind look := by
  induction l with
  | nil => rfl
  | cons a r ih => cases hl : look a <;> simp [hvn, hl, ih]

theorem lookupExact_spec {look : S → Option S} {st : EnvSt} (names : List S) (h : Live look st) :
    lookupExact names st = (match names.findSome? look with
      | some v => .val v
      | none => .unset, forceVN st) := by
  unfold lookupExact
  simp only
  rw [findSome_eq_find h.virtVN_mem]
  cases hf : names.find? (fun n => decide (n ∈ (forceVN st).virtVN)) with
  | none => rfl
  | some n =>
    have hn : n ∈ (forceVN st).virtVN := by simpa using List.find?_some hf
    obtain ⟨v, hl⟩ := Option.isSome_iff_exists.mp ((h.virtVN_mem n).mp hn)
    simp [h.envVal_some hl, hl]

/-- a lookup result against the reference's optional list of admissible strings -/
def Got.meetsOpt : Got → Option (List S) → Prop
  | .val v, some vs => v ∈ vs
  | .unset, none => True
  | _, _ => False

theorem getEnv_spec {look : S → Option S} {st : EnvSt} (rank dom : List S) (prio : Priority) (key : S)
    (h : Live look st) (hdom : ∀ n, (look n).isSome = true → n ∈ dom) :
    (getEnv rank prio key st).1.meetsOpt (refImplicit look dom prio key) := by
  rw [getEnv_eq, lookupExact_spec _ h]
  unfold refImplicit
  cases (tiers prio key).findSome? look with
  | some v => simp [Got.meetsOpt]
  | none =>
    simp only
    have hs := tryCleaned_spec rank key h
    generalize (tryCleaned rank key (forceVN st)).1 = g at hs ⊢
    cases g with
    | keyError => exact hs.elim
    | val v =>
      obtain ⟨n, hn, hl⟩ := hs
      have hmem : v ∈ (dom.filter (fun n => decide (clean n = clean key))).filterMap look :=
        List.mem_filterMap.mpr ⟨n, List.mem_filter.mpr ⟨hdom n (by simp [hl]), decide_eq_true hn⟩, hl⟩
      obtain ⟨a, r, hc⟩ := List.exists_cons_of_ne_nil (List.ne_nil_of_mem hmem)
      rw [hc] at hmem ⊢
      exact hmem
    | unset =>
      rw [List.filterMap_eq_nil_iff.mpr fun n hn => hs n (of_decide_eq_true (List.mem_filter.mp hn).2)]
      trivial

/-- the reference's source for a field that got no keyword argument -/
def refSource (look : S → Option S) (dom : List S) (prio : Priority) (pfx : S) (f : FieldDef) : Option (List S) :=
  match (f.explicit.map (pfx ++ ·)).findSome? look with
  | some v => some [v]
  | none => refImplicit look dom prio (pfx ++ f.name)

theorem refField_eq (look : S → Option S) (dom : List S) (prio : Priority) (pfx : S) (kw : Dict) (f : FieldDef) :
    refField look dom prio pfx kw f = match dget f.name kw with
      | some v => .oneOf [v]
      | none => match refSource look dom prio pfx f with
        | some vs => .oneOf vs
        | none => if f.hasDefault then .dflt else .missing := by
  unfold refField refSource
  cases dget f.name kw with
  | some v => rfl
  | none =>
    simp only
    cases (f.explicit.map (pfx ++ ·)).findSome? look <;> rfl

theorem explicitArg_eq {q : Quirks} {pfx : S} {names : List S}
    (h : q.multiExplicitRaw = true → names.length ≤ 1 ∨ pfx = []) :
    explicitArg q pfx names = names.map (pfx ++ ·) := by
  unfold explicitArg
  split
  · next hp => simp [hp]
  · next hp =>
    refine if_neg fun hraw => ?_
    rw [Bool.and_eq_true, decide_eq_true_eq] at hraw
    rcases h hraw.1 with h | h
    · omega
    · exact hp h

theorem lookupField_spec {look : S → Option S} {st : EnvSt} (q : Quirks) (rank dom : List S) (prio : Priority)
    (pfx : S) (kw : Dict) (f : FieldDef)
    (h : Live look st) (hdom : ∀ n, (look n).isSome = true → n ∈ dom)
    (hok : FieldOK q look dom prio pfx kw f) (hkw : dget f.name kw = none) :
    (lookupField q rank prio pfx f st).1.meetsOpt (refSource look dom prio pfx f) := by
  have himp := fun st (h : Live look st) => getEnv_spec rank dom prio (pfx ++ f.name) h hdom
  unfold lookupField refSource
  by_cases hex : f.explicit = []
  · simpa [hex] using himp st h
  · simp only [hex, ↓reduceIte]
    rw [explicitArg_eq hok.1, lookupExact_spec _ h]
    cases hs : (f.explicit.map (pfx ++ ·)).findSome? look with
    | some v => simp [Got.meetsOpt]
    | none =>
      simp only
      by_cases hq : q.explicitNoFallback = true
      · simp only [hq, ↓reduceIte]
        -- F3 is on: `FieldOK` leaves only the case where the letter-case lookup would find nothing either
        rcases hok.2 hq with h' | h' | h' | h'
        · exact absurd h' hex
        · simp [hkw] at h'
        · simp [hs] at h'
        · rw [h']; trivial
      · simp only [hq]
        exact himp _ (live_forceVN h)

theorem resolveField_spec {look : S → Option S} {st : EnvSt} (q : Quirks) (rank dom : List S) (prio : Priority)
    (pfx : S) (kw : Dict) (f : FieldDef)
    (h : Live look st) (hdom : ∀ n, (look n).isSome = true → n ∈ dom)
    (hok : FieldOK q look dom prio pfx kw f) :
    (resolveField q rank prio pfx kw f st).1.meets (refField look dom prio pfx kw f) = true := by
  rw [refField_eq]
  unfold resolveField
  cases hkw : dget f.name kw with
  | some v => simp [FieldRes.meets]
  | none =>
    simp only
    have hm := lookupField_spec q rank dom prio pfx kw f h hdom hok hkw
    generalize (lookupField q rank prio pfx f st).1 = g at hm ⊢
    generalize refSource look dom prio pfx f = src at hm ⊢
    -- `meetsOpt` leaves a value against `some`, and `unset` against `none`
    cases g <;> cases src <;> try exact hm.elim
    · simpa [FieldRes.meets, Got.meetsOpt] using hm
    · by_cases hd : f.hasDefault = true <;> simp [hd, FieldRes.meets]

theorem resolveAll_spec {look : S → Option S} (q : Quirks) (rank dom : List S) (prio : Priority)
    (pfx : S) (kw : Dict) (hdom : ∀ n, (look n).isSome = true → n ∈ dom) (fields : List FieldDef)
    (st : EnvSt) (h : Live look st) (hok : ∀ f ∈ fields, FieldOK q look dom prio pfx kw f) :
    meetsAll (resolveAll q rank prio pfx kw fields st).1
      (fields.map (fun f => (f.name, refField look dom prio pfx kw f))) = true := by
  induction fields generalizing st with
  | nil => rfl
  | cons f r ih =>
    have m1 := resolveField_spec q rank dom prio pfx kw f h hdom (hok f List.mem_cons_self)
    have m2 := ih _ (resolveField_preserves (Live look) q rank (fun _ => live_forceVN) (fun _ => live_forceCleaned rank)
      prio pfx kw f st h) (fun g hg => hok g (List.mem_cons_of_mem _ hg))
    simp [resolveAll, meetsAll, m1, m2]

theorem FieldRes.meets_missing {r : FieldRes} {e : Expect} (h : r.meets e = true) :
    r ≠ .keyError ∧ (r = .missing ↔ e = .missing) := by
  cases r <;> cases e <;> simp [FieldRes.meets] at h ⊢

theorem meetsAll_missing (rs : List (S × FieldRes)) (es : List (S × Expect)) (h : meetsAll rs es = true) :
    missingNames rs = refMissing es ∧ rs.any (fun p => decide (p.2 = .keyError)) = false := by
  fun_induction meetsAll rs es with
  | case1 => exact ⟨rfl, rfl⟩
  | case2 r rs e es ih =>
    simp only [Bool.and_eq_true, decide_eq_true_eq] at h
    obtain ⟨⟨hn, hm⟩, hrest⟩ := h
    obtain ⟨ih1, ih2⟩ := ih hrest
    obtain ⟨hk, hiff⟩ := FieldRes.meets_missing hm
    refine ⟨?_, by simp [hk, ih2]⟩
    unfold missingNames refMissing at ih1 ⊢
    simp only [List.filterMap_cons, hiff, hn, ih1]
  | case3 => cases h

theorem outcomeOf_meets {rs : List (S × FieldRes)} {es : List (S × Expect)} (h : meetsAll rs es = true) :
    (outcomeOf rs).meets es = true := by
  obtain ⟨h1, h2⟩ := meetsAll_missing rs es h
  rw [outcomeOf, h2, h1]
  by_cases hm : refMissing es = [] <;> simp [hm, Outcome.meets, h]

theorem updateWith_ready {look : S → Option S} {st : EnvSt} (rank : List S) (ov : Dict) (h : Ready look st) :
    Ready (fun n => (dgetLast n ov).or (look n)) (updateWith rank ov st) := by
  obtain ⟨e, he, hl⟩ := h.env
  have hkeys : ∀ n, (dgetLast n ov).isSome = true ↔ n ∈ keys ov := fun n => dgetLast_isSome_iff_keys n ov
  unfold updateWith reloadWith
  simp only [he, Option.getD_some]
  refine Ready.of_cache ⟨_, rfl, fun n => by rw [dget_dupdate, hl]⟩ ⟨_, rfl, fun n => ?_⟩ fun cl hcl => ?_
  · simp only [List.mem_append, List.mem_filter, decide_eq_true_eq, Option.isSome_or, Bool.or_eq_true, hkeys, h.virtVN_mem]
    by_cases h2 : (look n).isSome = true <;> simp [h2]
  · obtain ⟨cl0, hc, rfl⟩ := Option.map_eq_some_iff.mp hcl
    have h0 := h.cache hc
    refine patch_cacheOK (fun p hp => ⟨(h0.valid p hp).1, by simp [(h0.valid p hp).2]⟩)
      (fun v hv => by simp [(hkeys v).mpr (List.mem_filter.mp hv).1]) (fun n hn => ?_)
    by_cases h2 : (look n).isSome = true
    · exact Or.inl (h0.complete n h2)
    · simp only [Option.isSome_or, Bool.or_eq_true, h2, or_false, Bool.false_eq_true] at hn
      exact Or.inr (List.mem_filter.mpr ⟨(hkeys n).mp hn, by simpa [h.virtVN_mem] using h2⟩)

/-- the environment a `__init__` call resolves against: `os.environ` as it is now when `_reload=True` (or nothing was
loaded yet), else the copy the library holds -/
def seenEnv (os : Dict) (reload : Bool) (st : EnvSt) : Dict := if reload then os else st.environ.getD os

/-- one overlay stage of `prepare`: the secrets directories, then the dotenv files -/
def overlay (rank : List S) (fs : List Dict) (st : EnvSt) : EnvSt :=
  if fs = [] then st else updateWith rank (mergeFiles fs) st

theorem prepare_eq (q : Quirks) (os : Dict) (c : ClassDef) (a : InstArgs) (st : EnvSt) :
    prepare q os c a st = overlay a.rank (effDotenv c a) (overlay a.rank (effSecrets c a)
      (if a.reload then reloadOs q a.rank os st else loadEnviron q a.rank os false st)) := rfl

theorem overlay_ready {look : S → Option S} {st : EnvSt} (rank : List S) (fs : List Dict) (h : Ready look st) :
    Ready (fun n => (layersGet fs n).or (look n)) (overlay rank fs st) := by
  unfold overlay
  split
  · next hfs => exact h.congr (fun n => by simp [hfs, layersGet])
  · exact (updateWith_ready rank _ h).congr (fun n => by rw [dgetLast_mergeFiles])

theorem overlay_environ {st : EnvSt} {e : Dict} (rank : List S) (fs : List Dict) (he : st.environ = some e) :
    ∃ e', (overlay rank fs st).environ = some e' ∧ ∀ n, dget n e' = (layersGet fs n).or (dget n e) := by
  unfold overlay
  split
  · next hfs => exact ⟨e, he, fun n => by simp [hfs, layersGet]⟩
  · refine ⟨dupdate e (mergeFiles fs), by simp [updateWith, reloadWith, he], fun n => ?_⟩
    rw [dget_dupdate, dgetLast_mergeFiles]

theorem forceVN_overlay (rank : List S) (fs : List Dict) (st : EnvSt) :
    forceVN (overlay rank fs st) = overlay rank fs (forceVN st) := by
  unfold overlay
  split
  · rfl
  · -- `updateWith` reads `var_names` through `virtVN` only, and leaves it fired
    unfold updateWith reloadWith
    rw [virtVN_forceVN]
    rfl

theorem overlay_live {look : S → Option S} {st : EnvSt} (rank : List S) (fs : List Dict) (h : Live look st) :
    Live (fun n => (layersGet fs n).or (look n)) (overlay rank fs st) := by
  unfold Live
  rw [forceVN_overlay]
  exact overlay_ready rank fs h

theorem forceCleaned_environ (rank : List S) (st : EnvSt) : (forceCleaned rank st).environ = st.environ := by
  unfold forceCleaned
  cases st.cleaned <;> rfl

theorem reloadOs_environ (q : Quirks) (rank : List S) (os : Dict) (st : EnvSt) :
    (reloadOs q rank os st).environ = some os := by
  unfold reloadOs loadEnviron forceVN
  cases st.environ <;> simp

/-- what the stale-cache branch of `reloadOs_ready` needs of the state before the reload (supplied by `Loaded.sync`) -/
structure Sync (U : List S) (st : EnvSt) : Prop where
  valid : ∀ cl, st.cleaned = some cl → ∀ p ∈ cl, p.1 = clean p.2 ∧ p.2 ∈ U
  complete : ∀ cl, st.cleaned = some cl → ∀ v ∈ st.virtVN, (dget (clean v) cl).isSome = true
  names : ∀ n ∈ st.virtVN, n ∈ U

/-- The library holds the copy `e` of the environment and describes it: `ready` is `Live`, that is `Ready` of `forceVN st`, not
of `st`; `names` keeps `e` inside the name universe `U` where the stale-cache deviation needs one. -/
structure Loaded (q : Quirks) (U : List S) (st : EnvSt) (e : Dict) : Prop where
  env : st.environ = some e
  ready : Live (fun n => dget n e) st
  names : q.staleCleaned = true → ∀ n ∈ keys e, n ∈ U

/-- invariant of every reachable library state -/
def Coh (q : Quirks) (U : List S) (st : EnvSt) : Prop := st = {} ∨ ∃ e, Loaded q U st e

theorem forceVN_loaded {q : Quirks} {U : List S} {st : EnvSt} {e : Dict} (h : Loaded q U st e) :
    Loaded q U (forceVN st) e :=
  ⟨h.env, live_forceVN h.ready, h.names⟩

theorem forceCleaned_loaded {q : Quirks} {U : List S} {st : EnvSt} {e : Dict} (rank : List S) (h : Loaded q U st e) :
    Loaded q U (forceCleaned rank st) e :=
  ⟨(forceCleaned_environ rank st).trans h.env, live_forceCleaned rank h.ready, h.names⟩

theorem Loaded.sync {q : Quirks} {U : List S} {st : EnvSt} {e : Dict} (h : Loaded q U st e)
    (hq : q.staleCleaned = true) : Sync U st := by
  have hvn : ∀ n, n ∈ st.virtVN ↔ n ∈ keys e := fun n => by
    rw [← virtVN_forceVN, h.ready.virtVN_mem, mem_keys_iff]
  refine ⟨fun cl hcl p hp => ?_, fun cl hcl v hv => ?_, fun n hn => h.names hq n ((hvn n).mp hn)⟩
  · obtain ⟨h1, h2⟩ := h.ready.valid cl hcl p hp
    exact ⟨h1, h.names hq _ ((mem_keys_iff _ _).mpr h2)⟩
  · exact h.ready.complete cl hcl v ((mem_keys_iff _ _).mp ((hvn v).mp hv))

theorem overlay_loaded {q : Quirks} {U : List S} {st : EnvSt} {e : Dict} (rank : List S) (fs : List Dict)
    (h : Loaded q U st e) (hfs : q.staleCleaned = true → ∀ n ∈ fs.flatMap keys, n ∈ U) :
    ∃ e', Loaded q U (overlay rank fs st) e' := by
  obtain ⟨e', he', hl⟩ := overlay_environ rank fs h.env
  refine ⟨e', he', (overlay_live rank fs h.ready).congr (fun n => (hl n).symm), fun hq n hn => ?_⟩
  have hn' := (mem_keys_iff n e').mp hn
  rw [hl, Option.isSome_or, Bool.or_eq_true] at hn'
  rcases hn' with h1 | h1
  · exact hfs hq n (layersGet_isSome h1)
  · exact h.names hq n ((mem_keys_iff n e).mpr h1)

theorem reloadOs_ready {q : Quirks} {U : List S} {st : EnvSt} (rank : List S) (os : Dict)
    (hc : Coh q U st) (hU : q.staleCleaned = true → CleanInj U) :
    Ready (fun n => dget n os) (reloadOs q rank os st) := by
  have hkeys : ∀ n, n ∈ keys os ↔ (dget n os).isSome = true := fun n => mem_keys_iff n os
  rcases hc with rfl | ⟨e0, hl⟩
  · refine ⟨⟨_, rfl, fun _ => rfl⟩, ⟨_, rfl, fun n => ?_⟩, (fun cl hcl => nomatch hcl), (fun cl hcl => nomatch hcl)⟩
    simp [EnvSt.virtVN, hkeys]
  · have he := hl.env
    unfold reloadOs loadEnviron forceVN
    simp only [he, Option.isNone_some, Bool.false_eq_true, ↓reduceIte]
    refine Ready.of_cache ⟨_, rfl, fun _ => rfl⟩ ⟨_, rfl, fun n => hkeys n⟩ fun cl hcl => ?_
    obtain ⟨cl1, hcl1, rfl⟩ := Option.map_eq_some_iff.mp hcl
    obtain ⟨cl0, hc, rfl⟩ := Option.map_eq_some_iff.mp hcl1
    have hnew : ∀ v ∈ (keys os).filter (fun n => decide (n ∉ st.virtVN)), (dget v os).isSome = true :=
      fun v hv => (hkeys v).mp (List.mem_filter.mp hv).1
    by_cases hq : q.staleCleaned = true
    · -- F1: the old cache, filtered to the names still present, then patched with the names not seen before
      simp only [hq, ↓reduceIte]
      have hs := hl.sync hq
      refine patch_cacheOK (fun p hp => ?_) hnew (fun n hn => ?_)
      · obtain ⟨hp1, hp2⟩ := List.mem_filter.mp hp
        exact ⟨(hs.valid cl0 hc p hp1).1, (hkeys _).mp (of_decide_eq_true hp2)⟩
      · have hnk : n ∈ keys os := (hkeys n).mpr hn
        by_cases hold : n ∈ st.virtVN
        · -- `n` was there before: its cleaned key is in the old cache, and by `CleanInj` the entry can only name `n` itself
          obtain ⟨v', hd⟩ := Option.isSome_iff_exists.mp (hs.complete cl0 hc n hold)
          have hmem := dget_some_mem hd
          obtain ⟨hk, hvU⟩ := hs.valid cl0 hc _ hmem
          obtain rfl : v' = n := hU hq v' hvU n (hs.names n hold) hk.symm
          exact Or.inl (dget_isSome_of_mem (List.mem_filter.mpr ⟨hmem, by simpa using hnk⟩))
        · exact Or.inr (List.mem_filter.mpr ⟨hnk, by simpa using hold⟩)
    · simp only [hq]
      exact patch_cacheOK (fun p hp => by obtain ⟨v, hv, rfl⟩ := mem_buildCleaned hp; exact ⟨rfl, (hkeys v).mp hv⟩)
        hnew (fun n hn => Or.inl (patch_complete ((hkeys n).mpr hn)))

theorem reloadOs_loaded {q : Quirks} {U : List S} {st : EnvSt} (rank : List S) (os : Dict) (hc : Coh q U st)
    (hU : q.staleCleaned = true → CleanInj U ∧ ∀ n ∈ keys os, n ∈ U) : Loaded q U (reloadOs q rank os st) os :=
  ⟨reloadOs_environ q rank os st, (reloadOs_ready rank os hc (fun hq => (hU hq).1)).live, fun hq => (hU hq).2⟩

theorem loadEnviron_loaded {q : Quirks} {U : List S} {st : EnvSt} (rank : List S) (os : Dict) (hc : Coh q U st)
    (hos : q.staleCleaned = true → ∀ n ∈ keys os, n ∈ U) :
    Loaded q U (loadEnviron q rank os false st) (st.environ.getD os) := by
  rcases hc with rfl | ⟨e, hl⟩
  · exact ⟨rfl, ⟨⟨os, rfl, fun _ => rfl⟩, ⟨keys os, rfl, fun n => mem_keys_iff n os⟩,
      (fun cl hcl => nomatch hcl), (fun cl hcl => nomatch hcl)⟩, hos⟩
  · have : loadEnviron q rank os false st = st := by simp [loadEnviron, hl.env]
    rw [this, hl.env]
    exact hl

/-- The first stage of `prepare` (reload `os.environ`, or load it unless something is loaded) takes a coherent state to
one `Loaded` with `seenEnv`. -/
theorem load_loaded {q : Quirks} {U : List S} {st : EnvSt} (rank : List S) (os : Dict) (reload : Bool) (hc : Coh q U st)
    (hU : q.staleCleaned = true → CleanInj U ∧ ∀ n ∈ keys os, n ∈ U) :
    Loaded q U (if reload = true then reloadOs q rank os st else loadEnviron q rank os false st)
      (seenEnv os reload st) := by
  unfold seenEnv
  cases reload
  · exact loadEnviron_loaded rank os hc (fun hq => (hU hq).2)
  · exact reloadOs_loaded rank os hc hU

theorem prepare_live {q : Quirks} {U : List S} {st : EnvSt} (os : Dict) (c : ClassDef) (a : InstArgs) (hc : Coh q U st)
    (hU : q.staleCleaned = true → CleanInj U ∧ ∀ n ∈ keys os, n ∈ U) :
    Live (refLookup (seenEnv os a.reload st) (effSecrets c a) (effDotenv c a)) (prepare q os c a st) := by
  rw [prepare_eq]
  exact (overlay_live _ _ (overlay_live _ _ (load_loaded a.rank os a.reload hc hU).ready)).congr
    (fun n => (refLookup_eq _ _ _ n).symm)

theorem prepare_loaded {q : Quirks} {U : List S} {st : EnvSt} (os : Dict) (c : ClassDef) (a : InstArgs) (hc : Coh q U st)
    (hU : q.staleCleaned = true → CleanInj U ∧ (∀ n ∈ keys os, n ∈ U) ∧ ∀ n ∈ Op.names (.inst c a), n ∈ U) :
    ∃ e, Loaded q U (prepare q os c a st) e := by
  rw [prepare_eq]
  have h0 := load_loaded a.rank os a.reload hc (fun hq => ⟨(hU hq).1, (hU hq).2.1⟩)
  obtain ⟨e1, h1⟩ := overlay_loaded a.rank (effSecrets c a) h0 (fun hq n hn => (hU hq).2.2 n (List.mem_append_left _ hn))
  exact overlay_loaded a.rank (effDotenv c a) h1 (fun hq n hn => (hU hq).2.2 n (List.mem_append_right _ hn))

theorem instantiate_coh {q : Quirks} {U : List S} {st : EnvSt} (os : Dict) (c : ClassDef) (a : InstArgs) (hc : Coh q U st)
    (hU : q.staleCleaned = true → CleanInj U ∧ (∀ n ∈ keys os, n ∈ U) ∧ ∀ n ∈ Op.names (.inst c a), n ∈ U) :
    Coh q U (instantiate q os c a st).2 := by
  obtain ⟨e, hl⟩ := prepare_loaded os c a hc hU
  exact Or.inr ⟨e, resolveAll_preserves (Loaded q U · e) q a.rank (fun _ => forceVN_loaded)
    (fun _ => forceCleaned_loaded a.rank) c.prio _ a.kw c.fields _ hl⟩

theorem reachable_coh {q : Quirks} {U : List S} (hinj : q.staleCleaned = true → CleanInj U) {w : World}
    (hw : Reachable q U w) : Coh q U w.env ∧ (q.staleCleaned = true → ∀ n ∈ keys w.os, n ∈ U) := by
  induction hw with
  | init os h => exact ⟨Or.inl rfl, h⟩
  | step op hw h ih =>
    obtain ⟨hc, hos⟩ := ih
    cases op with
    | setOs k v =>
      refine ⟨hc, fun hq n hn => ?_⟩
      rcases mem_keys_dset hn with rfl | hn
      · exact h hq n (by simp [Op.names])
      · exact hos hq n hn
    | delOs k => exact ⟨hc, fun hq n hn => hos hq n (mem_keys_ddel hn)⟩
    | reload rank => exact ⟨Or.inr ⟨_, reloadOs_loaded rank _ hc (fun hq => ⟨hinj hq, hos hq⟩)⟩, hos⟩
    | inst c a => exact ⟨instantiate_coh _ c a hc (fun hq => ⟨hinj hq, hos hq, h hq⟩), hos⟩

theorem Reach.reachable {q : Quirks} {w : World} (hq : q.staleCleaned = false) (h : Reach q w) : Reachable q [] w := by
  have off {p : Prop} (h : q.staleCleaned = true) : p := by rw [hq] at h; cases h
  induction h with
  | init os => exact .init os off
  | step op _ ih => exact .step op ih off

theorem fieldOK_clean (look : S → Option S) (dom : List S) (prio : Priority) (pfx : S) (kw : Dict) (f : FieldDef) :
    FieldOK Quirks.clean look dom prio pfx kw f :=
  ⟨fun h => by simp [Quirks.clean] at h, fun h => by simp [Quirks.clean] at h⟩

theorem refLookup_isSome_names {os : Dict} {secs dots : List Dict} {n : S}
    (h : (refLookup os secs dots n).isSome = true) : n ∈ refNames os secs dots := by
  rw [refLookup_eq] at h
  simp only [Option.isSome_or, Bool.or_eq_true] at h
  unfold refNames
  simp only [List.mem_append]
  rcases h with h | h | h
  · exact Or.inr (layersGet_isSome h)
  · exact Or.inl (Or.inr (layersGet_isSome h))
  · exact Or.inl (Or.inl ((mem_keys_iff n os).mpr h))

/-- every instantiation in a reachable state, with or without `_reload`, meets the reference over the environment it
sees (`seenEnv`), for any quirk setting; `C18_resolve` and `C18_resolve_partial` are its `_reload=True` instance -/
theorem instantiate_meets_seen {q : Quirks} {U : List S} {w : World} (hinj : q.staleCleaned = true → CleanInj U)
    (hw : Reachable q U w) (c : ClassDef) (a : InstArgs)
    (hok : ∀ f ∈ c.fields, FieldOK q (refLookup (seenEnv w.os a.reload w.env) (effSecrets c a) (effDotenv c a))
      (refNames (seenEnv w.os a.reload w.env) (effSecrets c a) (effDotenv c a)) c.prio (effPrefix c a) a.kw f) :
    (instantiate q w.os c a w.env).1.meets (refResolve (seenEnv w.os a.reload w.env) c a) = true := by
  obtain ⟨hc, hos⟩ := reachable_coh hinj hw
  exact outcomeOf_meets (resolveAll_spec q a.rank _ c.prio (effPrefix c a) a.kw
    (fun n hn => refLookup_isSome_names hn) c.fields _ (prepare_live w.os c a hc (fun hq => ⟨hinj hq, hos hq⟩)) hok)

theorem instantiate_meets {q : Quirks} {U : List S} {w : World} (hinj : q.staleCleaned = true → CleanInj U)
    (hw : Reachable q U w) (c : ClassDef) (a : InstArgs) (hr : a.reload = true)
    (hok : ∀ f ∈ c.fields, FieldOK q (refLookup w.os (effSecrets c a) (effDotenv c a))
      (refNames w.os (effSecrets c a) (effDotenv c a)) c.prio (effPrefix c a) a.kw f) :
    (instantiate q w.os c a w.env).1.meets (refResolve w.os c a) = true := by
  have h := instantiate_meets_seen hinj hw c a
  simp only [seenEnv, hr, ↓reduceIte] at h
  exact h hok

/-- The same stage without `Coh`: from any state, the library's copy afterwards is `seenEnv`. -/
theorem load_environ (q : Quirks) (rank : List S) (os : Dict) (reload : Bool) (st : EnvSt) :
    (if reload = true then reloadOs q rank os st else loadEnviron q rank os false st).environ =
      some (seenEnv os reload st) := by
  cases reload
  · unfold loadEnviron seenEnv
    cases he : st.environ <;> simp [he]
  · exact reloadOs_environ q rank os st

theorem prepare_environ (q : Quirks) (os : Dict) (c : ClassDef) (a : InstArgs) (st : EnvSt) :
    ∃ e, (prepare q os c a st).environ = some e ∧
      ∀ n, dget n e = refLookup (seenEnv os a.reload st) (effSecrets c a) (effDotenv c a) n := by
  rw [prepare_eq]
  obtain ⟨e1, he1, hl1⟩ := overlay_environ a.rank (effSecrets c a) (load_environ q a.rank os a.reload st)
  obtain ⟨e2, he2, hl2⟩ := overlay_environ a.rank (effDotenv c a) he1
  exact ⟨e2, he2, fun n => by rw [hl2, hl1, refLookup_eq]⟩

theorem outcome_meets_missing {o : Outcome} {es : List (S × Expect)} (h : o.meets es = true) :
    (refMissing es ≠ [] → o = .missing (refMissing es)) ∧ (refMissing es = [] → ∃ rs, o = .ok rs ∧ meetsAll rs es = true) := by
  cases o with
  | raised => simp [Outcome.meets] at h
  | missing ns =>
    simp only [Outcome.meets, Bool.and_eq_true, decide_eq_true_eq] at h
    refine ⟨fun _ => by rw [h.2], fun he => ?_⟩
    rw [he] at h
    exact absurd h.2 h.1
  | ok rs =>
    simp only [Outcome.meets, Bool.and_eq_true, decide_eq_true_eq] at h
    exact ⟨fun hne => absurd h.1 hne, fun _ => ⟨rs, rfl, h.2⟩⟩

/- The data of the witness theorems of DW/Props/C18.lean. -/

def wField : FieldDef := { name := "myVar".toList, explicit := [], hasDefault := true }
def wClass : ClassDef := { fields := [wField], pfx := [], prio := .screamingSnake, metaDotenv := [], metaSecrets := [] }
def wArgs : InstArgs := { kw := [], reload := true, pfx := none, envFile := none, secrets := none, rank := [] }
def wOs : Dict := [("my_var".toList, "lower".toList)]
/-- instantiate (cache: myvar -> my_var), set MY_VAR (a new name: the cache entry is patched to MY_VAR), instantiate,
delete MY_VAR; no two names are ever candidates at the same moment, so the outcome does not depend on any `rank` -/
def wOps : List Op :=
  [.inst wClass wArgs, .setOs "MY_VAR".toList "upper".toList, .inst wClass wArgs, .delOs "MY_VAR".toList]

def wClassMulti : ClassDef :=
  { fields := [{ name := "x".toList, explicit := ["A".toList, "B".toList], hasDefault := true }], pfx := "P_".toList,
    prio := .screamingSnake, metaDotenv := [], metaSecrets := [] }
def wOsMulti : Dict := [("P_A".toList, "pa".toList), ("P_B".toList, "pb".toList)]

def wClassNoFall : ClassDef :=
  { fields := [{ name := "a".toList, explicit := ["NOPE".toList], hasDefault := true }], pfx := [],
    prio := .screamingSnake, metaDotenv := [], metaSecrets := [] }
def wOsNoFall : Dict := [("A".toList, "a".toList)]

end DW.Env
