/-
C14 — v1 load failures are library errors that render and name the class and field.
-/
import DW.Generated.Tables
import DW.Model.LoadV1
import DW.Lemmas.Build
import DW.Lemmas.V1

namespace DW.Props.C14
open DW

/-- the error lattice in the source: every error class the loaders raise derives from JSONWizardError, and
MissingData is a ParseError (regenerated from errors.py on every run) -/
theorem C14_error_lattice :
    Generated.errorLattice =
      [("JSONWizardError", "JSONWizardError"), ("ParseError", "ParseError JSONWizardError"),
       ("MissingFields", "MissingFields JSONWizardError"), ("MissingData", "MissingData ParseError JSONWizardError"),
       ("UnknownKeysError", "UnknownKeysError JSONWizardError"), ("RecursiveClassError", "RecursiveClassError JSONWizardError"),
       ("InvalidConditionError", "InvalidConditionError JSONWizardError"), ("MissingVars", "MissingVars JSONWizardError"),
       ("ExtraData", "ExtraData JSONWizardError")] :=
  rfl  -- the generated definition is this literal

/-- an error is a library error: not a bare Python exception -/
def isLib : LErr → Bool
  | .raw _ => false
  | .unsupported _ => true      -- (outside the model; the harness skips such cases)
  | _ => true

theorem v1SetAttr_isLib (c f : S) (e : LErr) : isLib (v1SetAttr c f e) = true := by
  cases e <;> rfl

/-! ### where an error comes from (v1): the field named is the field whose loader failed, the class named is the class being built -/

open DW.Lemmas.V1 in
theorem v1FieldStep_origin {fl : S → JVal → LRes} {eff : MetaCfg} {ci : ClassInfo} {kvs : List (S × JVal)} {fi : FieldInfo}
    {e : LErr} (h : v1FieldStep fl eff ci kvs fi = .error e) :
    fi.init = true ∧ fi.isCatchAll = false ∧ ∃ v e0, lookupFirst kvs (v1Keys eff fi) = some v ∧
      fl fi.name v = .error e0 ∧ e = v1SetAttr ci.name fi.name e0 := by
  unfold v1FieldStep at h
  split at h
  · cases h
  · next hskip =>
    have hi : fi.init = true ∧ fi.isCatchAll = false := by simpa using hskip
    split at h
    · cases h
    · next v hv =>
      cases hfl : fl fi.name v with
      | error e0 => rw [hfl] at h; cases h; exact ⟨hi.1, hi.2, v, e0, hv, hfl, rfl⟩
      | ok y => rw [hfl] at h; cases h

theorem v1Fields_origin (fl : S → JVal → LRes) (eff : MetaCfg) (ci : ClassInfo) (kvs : List (S × JVal)) :
    ∀ (fs : List FieldInfo) (e : LErr), v1Fields fl eff ci kvs fs = .error e →
    ∃ fi ∈ fs, fi.init = true ∧ fi.isCatchAll = false ∧ ∃ v e0, lookupFirst kvs (v1Keys eff fi) = some v ∧
      fl fi.name v = .error e0 ∧ e = v1SetAttr ci.name fi.name e0
  | [], e, h => nomatch h
  | fi :: r, e, h => by
    rcases DW.Lemmas.V1.v1Fields_cons_error h with h | h
    · exact ⟨fi, List.mem_cons_self .., v1FieldStep_origin h⟩
    · exact Build.exists_mem_cons_of_exists (v1Fields_origin fl eff ci kvs r e h)

/-- the class an error of this class's own last step speaks of -/
def ownError (c : S) : LErr → Prop
  | .unknownKeys c' _ => c' = c
  | .missingFields c' _ => c' = c
  | .unsupported _ => True      -- (outside the model; the harness skips such cases)
  | _ => False

theorem ownError_isLib (c : S) (e : LErr) (h : ownError c e) : isLib e = true := by
  cases e <;> first | rfl | exact h.elim

theorem finishKw_own (ci : ClassInfo) (kw : List (S × PyVal)) (e : LErr) (h : finishKw ci kw = .error e) :
    ownError ci.name e := by
  unfold finishKw at h
  split at h
  · rcases Except.bind_eq_error.mp h with hb | ⟨_, _, h⟩
    · rw [Build.buildFields_error kw ci.fields e hb]
      trivial
    · cases h
  · cases h; rfl

theorem v1Finish_own (eff : MetaCfg) (ci : ClassInfo) (kvs : List (S × JVal)) (kw : List (S × PyVal)) (found : Nat)
    (e : LErr) (h : v1Finish eff ci kvs kw found = .error e) : ownError ci.name e := by
  unfold v1Finish at h
  split at h
  · cases h; rfl
  · exact finishKw_own _ _ _ h

/-- **C14 (v1, attribution at the level of documents).** A failing load of a dict document by the function generated for
class `ci` — any field loaders, any Meta — is exactly one of two things. (1) The loader of one constructor field `fi` of
`ci`, applied to the value found in the document under `fi`'s first present key, failed with some `e0`, and the error is
`e0` re-attributed by `ci`'s handler: `(ci, fi)` when `e0` names nothing yet (a bare exception, or a ParseError /
MissingData without class and field — `C14_v1_innermost_kept`), the inner class and field when a nested dataclass already
named them, and unchanged when it is an inner MissingFields / UnknownKeysError (`C14_v1_inner_errors_pass`). (2) Every
field loaded and the last step of `ci` failed: an UnknownKeysError or MissingFields naming `ci` itself. So the class named
is always the innermost dataclass being built and the field named is the one holding the value that did not convert. -/
theorem C14_v1_error_origin (fl : S → JVal → LRes) (eff : MetaCfg) (ci : ClassInfo) (kvs : List (S × JVal)) (e : LErr)
    (h : v1ClassWith fl eff ci (.dict kvs) = .error e) :
    (∃ fi ∈ ci.fields, fi.init = true ∧ fi.isCatchAll = false ∧ ∃ v e0, lookupFirst kvs (v1Keys eff fi) = some v ∧
        fl fi.name v = .error e0 ∧ e = v1SetAttr ci.name fi.name e0) ∨
    ownError ci.name e := by
  rw [v1ClassWith] at h
  rcases Except.bind_eq_error.mp h with hf | ⟨res, _, h⟩
  · exact .inl (v1Fields_origin fl eff ci kvs ci.fields e hf)
  · exact .inr (v1Finish_own eff ci kvs res.1 res.2 e h)

theorem finishClass_lib (ci : ClassInfo) (kw : List (S × PyVal)) (ca : List (PyVal × PyVal)) (o : JVal) (e : LErr)
    (h : finishClass ci kw ca o = .error e) : isLib e = true :=
  ownError_isLib _ _ (finishKw_own ci (withCatchAll ci kw ca) e h)

/-- C14, v1 engine: *every* failing load of a class — any JSON input, any field loaders — ends in a library
error (ParseError, MissingData, MissingFields, UnknownKeysError), never a bare exception. -/
theorem C14_lib_only (fl : S → JVal → LRes) (eff : MetaCfg) (ci : ClassInfo) (o : JVal) (e : LErr)
    (h : v1ClassWith fl eff ci o = .error e) : isLib e = true := by
  cases o with
  | dict kvs =>
    rcases C14_v1_error_origin fl eff ci kvs e h with ⟨fi, _, _, _, v, e0, _, _, rfl⟩ | hown
    · exact v1SetAttr_isLib _ _ _
    · exact ownError_isLib _ _ hown
  | _ => cases h; rfl

/-- attribution: a failure converting the value of field `f` of class `c` is reported as (c, f) unless a nested
loader already named an inner class / field (innermost wins) -/
theorem C14_attribution_innermost (c f : S) (ic : Option S) (ifd : Option S) :
    v1SetAttr c f (.parse ic ifd) = .parse (ic <|> some c) (ifd <|> some f) ∧
    v1SetAttr c f (.raw "ValueError".toList) = .parse (some c) (some f) := ⟨rfl, rfl⟩

/-- whatever the unknown-key policy, catch-all field and tag of the class: the step after the field loop (UnknownKeysError
under RAISE, catch-all capture, `cls(...)` and its MissingFields conversion) fails with library errors only -/
theorem C14_v1_finish_lib (eff : MetaCfg) (ci : ClassInfo) (kvs : List (S × JVal)) (kw : List (S × PyVal)) (found : Nat)
    (e : LErr) (h : v1Finish eff ci kvs kw found = .error e) : isLib e = true :=
  ownError_isLib _ _ (v1Finish_own eff ci kvs kw found e h)

/-- a main class bound to the v1 engine: every failing `fromdict` ends in a library error -/
theorem C14_v1_fromdict_lib (std : Std) (ci : ClassInfo) (ftys : List (S × Ty)) (o : JVal) (e : LErr)
    (h : fromdictV1 std (.cls ci ftys) o = .error e) : isLib e = true := by
  simp only [fromdictV1] at h
  exact C14_lib_only _ _ _ _ _ h

/-- ... and so does every nested dataclass, under whatever Meta the cascade gives it -/
theorem C14_v1_nested_lib (std : Std) (cfg : Option MetaCfg) (ci : ClassInfo) (ftys : List (S × Ty)) (o : JVal) (e : LErr)
    (h : loadV1 std cfg (.cls ci ftys) o = .error e) : isLib e = true := by
  unfold loadV1 at h
  exact C14_lib_only _ _ _ _ _ h

/-- innermost attribution survives any number of enclosing classes: once an inner class has named (class, field), the
handlers of the enclosing classes leave both untouched — for a ParseError as for a MissingData -/
theorem C14_v1_innermost_kept (c1 f1 c2 f2 : S) (x : S) (n : S) :
    v1SetAttr c2 f2 (v1SetAttr c1 f1 (.raw x)) = .parse (some c1) (some f1) ∧
    v1SetAttr c2 f2 (v1SetAttr c1 f1 (.parse none none)) = .parse (some c1) (some f1) ∧
    v1SetAttr c2 f2 (v1SetAttr c1 f1 (.missingData none none n)) = .missingData (some c1) (some f1) n := ⟨rfl, rfl, rfl⟩

/-- MissingFields and UnknownKeysError of an inner class pass through the enclosing handlers unchanged: they keep naming
the inner class -/
theorem C14_v1_inner_errors_pass (c f : S) (c' : S) (ms ks : List S) :
    v1SetAttr c f (.missingFields c' ms) = .missingFields c' ms ∧
    v1SetAttr c f (.unknownKeys c' ks) = .unknownKeys c' ks := ⟨rfl, rfl⟩

/-- what the handler makes of the inner failure, case by case (the second half of `C14_v1_error_origin`'s reading) -/
theorem C14_v1_reattribution (c f : S) :
    (∀ x, v1SetAttr c f (.raw x) = .parse (some c) (some f)) ∧
    v1SetAttr c f (.parse none none) = .parse (some c) (some f) ∧
    (∀ c' f', v1SetAttr c f (.parse (some c') (some f')) = .parse (some c') (some f')) ∧
    (∀ c' ms, v1SetAttr c f (.missingFields c' ms) = .missingFields c' ms) ∧
    (∀ c' ks, v1SetAttr c f (.unknownKeys c' ks) = .unknownKeys c' ks) :=
  ⟨fun _ => rfl, rfl, fun _ _ => rfl, fun _ _ => rfl, fun _ _ => rfl⟩

/-- the first alternative occurs: `class A: x: int` on `{'x': 'junk'}` with a field loader that raises ValueError fails
with ParseError(class A, field x) -/
theorem C14_v1_error_origin_example :
    v1ClassWith (fun _ _ => rawE "ValueError") {} { name := "A".toList, fields := [{ name := "x".toList }] }
      (.dict [("x".toList, .str "junk".toList)]) = .error (.parse (some "A".toList) (some "x".toList)) := by rfl

end DW.Props.C14
