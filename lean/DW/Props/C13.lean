/-
C13 — tagged unions dispatch on the tag alone (default engine, then the v1 engine).
-/
import DW.Generated.Tables
import DW.Model.Load
import DW.Model.LoadV1
import DW.Lemmas.Tagged
import DW.Lemmas.TaggedV1
import DW.Lemmas.V1
import DW.Lemmas.RoundTrip
import DW.Lemmas.RoundTripV1
import DW.Lemmas.GenDumpSem

namespace DW.Props.C13
open DW DW.Tagged

/-- C13 dispatch, end to end at a Union annotation: a dict whose tag key holds K's tag is loaded as K, for every
position of K among the Union arguments. -/
theorem C13_dispatch (std : Std) (cfg : Option MetaCfg) (tg : S) (pre post : List Ty)
    (ci : ClassInfo) (ftys : List (S × Ty)) (kvs : List (S × JVal))
    (hk : memberTag cfg ci = some tg)
    (hpre : ∀ t ∈ pre, tagOf cfg t ≠ some tg) (hpost : ∀ t ∈ post, tagOf cfg t ≠ some tg)
    (hclaim : NoDictClaim (pre ++ .cls ci ftys :: post) (.dict kvs))
    (htag : kvs.find? (fun kv => kv.1 == (cfg.bind (·.tagKey)).getD Generated.tagKey.toList)
              = some ((cfg.bind (·.tagKey)).getD Generated.tagKey.toList, .str tg)) :
    loadD std cfg (.union (pre ++ .cls ci ftys :: post)) (.dict kvs)
      = loadClassWith (fun f v => loadField std cfg f v ftys) (effMeta ci.cmeta cfg) ci (.dict kvs) :=
  loadD_dispatch_core std cfg tg pre post ci ftys kvs hk hpre hpost hclaim htag

theorem C13_bad_tag (std : Std) (cfg : Option MetaCfg) (tg : S) (ts : List Ty) (kvs : List (S × JVal))
    (h : ∀ t ∈ ts, tagOf cfg t ≠ some tg) (hclaim : NoDictClaim ts (.dict kvs))
    (htag : kvs.find? (fun kv => kv.1 == (cfg.bind (·.tagKey)).getD Generated.tagKey.toList)
              = some ((cfg.bind (·.tagKey)).getD Generated.tagKey.toList, .str tg)) :
    loadD std cfg (.union ts) (.dict kvs) = .error (.parse none none) := by
  rw [loadD_union_dict std cfg ts kvs hclaim, htag]
  exact loadTagged_unassigned std cfg tg ts _ h

/-- a dict without the tag key, when no untagged alternative claims it, is rejected with ParseError -/
theorem C13_missing_tag (std : Std) (cfg : Option MetaCfg) (ts : List Ty) (kvs : List (S × JVal))
    (hclaim : NoDictClaim ts (.dict kvs))
    (htag : kvs.find? (fun kv => kv.1 == (cfg.bind (·.tagKey)).getD Generated.tagKey.toList) = none) :
    loadD std cfg (.union ts) (.dict kvs) = .error (.parse none none) := by
  rw [loadD_union_dict std cfg ts kvs hclaim, htag]
  rfl

/-- the tag key of a tagged class is never an unknown key (so it is neither reported nor captured) -/
theorem C13_tag_key_not_unknown (eff : MetaCfg) (ci : ClassInfo) (t : S) (ht : eff.tag = some t)
    (hnf : eff.tagKey.getD Generated.tagKey.toList ∉ initFieldNames ci)
    (hna : (aliasTable ci).reverse.find? (fun p => p.1 == eff.tagKey.getD Generated.tagKey.toList) = none) :
    resolveKey eff ci (eff.tagKey.getD Generated.tagKey.toList) = .ok .ignored :=
  resolveKey_tagKey eff ci t ht hnf hna

/-- dump writes K's tag under the configured tag key, next to K's fields -/
theorem C13_dump_tag (eff : MetaCfg) (t : S) (body : List (DVal × DVal)) (ht : eff.tag = some t) :
    finishInst eff body = .dict false (body ++ [(.str (eff.tagKey.getD Generated.tagKey.toList), .str t)]) := by
  simp [finishInst, ht]

/-- the default tag key is the documented `__tag__` -/
theorem C13_default_tag_key : Generated.tagKey = "__tag__" := by decide

/-- **dump then load through the Union** (default engine): for a member class K of the round-trip fragment carrying tag
`tg` (`RT.ClsOK … (some tg)`: the tag key is that of the travelling config and no key of K), every other Union member a
dataclass answering to another tag or `None`, and field values that conform: what `asdict` writes for an instance of K —
K's fields and K's tag under the tag key — is loaded back by the Union annotation to exactly that instance of K,
whatever the position of K among the members and however similar the members' fields are. -/
theorem C13_roundtrip_tagged (std : Std) (laws : StdLaws std) (cfg : Option MetaCfg) (pre post : List Ty) (ci : ClassInfo)
    (ftys : List (S × Ty)) (vals : List PyVal) (tg : S) (hp : RT.ClsOK cfg ci ftys (some tg)) (hlen : vals.length = ftys.length)
    (hvals : ∀ p ∈ ftys.zip vals, RT.Conf std cfg p.1.2 p.2)
    (hpre : ∀ t ∈ pre, RT.OtherMember cfg tg t) (hpost : ∀ t ∈ post, RT.OtherMember cfg tg t)
    (d : DVal) (h : dumpV std false cfg (.inst ci ((ftys.map (·.1)).zip vals)) = .ok d) :
    loadD std cfg (.union (pre ++ .cls ci ftys :: post)) (RT.toJ d) = .ok (.inst ci ((ftys.map (·.1)).zip vals)) :=
  RT.roundtrip std cfg laws _ _ (RT.Conf.unionTagged pre post ci ftys vals tg hp hlen hvals hpre hpost) d h

/-! ### v1 engine

The v1 Union helper reads `v1[tag_key]` first (when at least one member dataclass carries a tag) and compares it with each
member's tag in turn; only a value without the tag key falls through to the exact-type / try-parse passes. -/

/-- C13 dispatch for the v1 engine, end to end at a Union annotation: a dict whose tag key holds K's tag is loaded as K, for
every position of K among the Union arguments and whatever scalar / container / other dataclass members stand next to it. -/
theorem C13_v1_dispatch (std : Std) (cfg : Option MetaCfg) (tg : S) (pre post : List Ty)
    (ci : ClassInfo) (ftys : List (S × Ty)) (kvs : List (S × JVal))
    (hk : memberTag cfg ci = some tg)
    (hpre : ∀ t ∈ pre, tagOf cfg t ≠ some tg) (hpost : ∀ t ∈ post, tagOf cfg t ≠ some tg)
    (htag : kvs.find? (fun kv => kv.1 == (cfg.bind (·.tagKey)).getD Generated.tagKey.toList)
              = some ((cfg.bind (·.tagKey)).getD Generated.tagKey.toList, .str tg)) :
    loadV1 std cfg (.union (pre ++ .cls ci ftys :: post)) (.dict kvs)
      = v1ClassWith (fun f v => v1Field std cfg f v ftys) (effMeta ci.cmeta cfg) ci (.dict kvs) :=
  v1_dispatch_core std cfg tg pre post ci ftys kvs hk hpre hpost htag

/-- an unassigned tag is rejected with ParseError — no member is tried structurally, however well the dict would fit one -/
theorem C13_v1_bad_tag (std : Std) (cfg : Option MetaCfg) (tg : S) (ts : List Ty) (kvs : List (S × JVal))
    (h : ∀ t ∈ ts, tagOf cfg t ≠ some tg) (hany : v1AnyTagged cfg ts = true)
    (htag : kvs.find? (fun kv => kv.1 == (cfg.bind (·.tagKey)).getD Generated.tagKey.toList)
              = some ((cfg.bind (·.tagKey)).getD Generated.tagKey.toList, .str tg)) :
    loadV1 std cfg (.union ts) (.dict kvs) = .error (.parse none none) := by
  rw [loadV1_union_dict, hany, htag]
  exact v1Tagged_unassigned std cfg tg ts _ h

/-- every member of the Union is a tagged dataclass (or None) -/
def AllTagged (cfg : Option MetaCfg) (ts : List Ty) : Prop :=
  ∀ t ∈ ts, t = .none ∨ ∃ ci ftys, t = .cls ci ftys ∧ (memberTag cfg ci).isSome = true

theorem v1UnionExact_none (std : Std) (cfg : Option MetaCfg) (ts : List Ty) (o : JVal) (h : AllTagged cfg ts) :
    v1UnionExact std cfg ts o = none := by
  induction ts with
  | nil => rfl
  | cons t r ih =>
    obtain ⟨ht, hr⟩ := List.forall_mem_cons.1 h
    rcases ht with rfl | ⟨ci, ftys, rfl, htg⟩
    · exact ih hr
    · rw [v1UnionExact, if_pos htg]; exact ih hr

theorem v1UnionCoerce_none (std : Std) (cfg : Option MetaCfg) (ts : List Ty) (o : JVal) (h : AllTagged cfg ts) :
    v1UnionCoerce std cfg ts o = none := by
  induction ts with
  | nil => rfl
  | cons t r ih =>
    obtain ⟨ht, hr⟩ := List.forall_mem_cons.1 h
    -- the coercion pass tries the simple members other than `None` only: by unfolding, neither form of `t` is one
    rcases ht with rfl | ⟨ci, ftys, rfl, _⟩ <;> exact ih hr

/-- a dict without the tag key, offered to a Union of tagged dataclasses only, is rejected with ParseError -/
theorem C13_v1_missing_tag (std : Std) (cfg : Option MetaCfg) (ts : List Ty) (kvs : List (S × JVal))
    (h : AllTagged cfg ts)
    (htag : kvs.find? (fun kv => kv.1 == (cfg.bind (·.tagKey)).getD Generated.tagKey.toList) = none) :
    loadV1 std cfg (.union ts) (.dict kvs) = .error (.parse none none) := by
  rw [loadV1_union_dict, htag, Option.map_none, ite_self, v1UnionExact_none std cfg ts _ h,
    v1UnionCoerce_none std cfg ts _ h]
  rfl

/-- the tag key of a tagged class is a *known* key of its v1 function: it is neither reported by UnknownKeysError nor captured
by CatchAll (both only ever see `v1Extra`, the pairs with unknown keys) -/
theorem C13_v1_tag_key_known (eff : MetaCfg) (ci : ClassInfo) (t : S) (ht : eff.tag = some t)
    (hnf : v1TagKey eff ∉ initFieldNames ci) (kvs : List (S × JVal)) :
    v1TagKey eff ∈ v1KnownKeys eff ci ∧ ∀ kv ∈ v1Extra eff ci kvs, kv.1 ≠ v1TagKey eff := by
  have hnc : (initFieldNames ci).contains (v1TagKey eff) = false := by simpa using hnf
  have hx : v1ExpectTag eff ci = true := by
    rw [v1ExpectTag, ht, hnc]
    rfl
  exact Lemmas.V1.v1TagKey_known hx kvs

/-- an attribute that merely *mirrors* the tag (an `init=False` field named like the tag key) does not switch the whitelisting
off: only constructor fields count -/
theorem C13_v1_noninit_mirror_ignored (eff : MetaCfg) (ci : ClassInfo)
    (h : ∀ f ∈ ci.fields, f.name = v1TagKey eff → f.init = false) : v1TagKey eff ∉ initFieldNames ci := by
  intro hm
  obtain ⟨f, hf, hn⟩ := List.mem_map.mp hm
  obtain ⟨hfm, hinit⟩ := List.mem_filter.mp hf
  simp [h f hfm hn] at hinit

/-- Witness (the library as it is, not repaired): the tag key is counted inside the `if cls_init_fields:` block only. A tagged
class *without* any constructor field therefore never counts its tag key: under RAISE a document holding just the tag is
rejected — with an empty list of unknown keys — although the tag key is whitelisted. -/
theorem C13_v1_tag_only_class_witness :
    let ci : ClassInfo := { name := ['B'], fields := [{ name := ['n'], init := false, dflt := some (.lit (.int 3)) }] }
    let eff : MetaCfg := { v1 := some true, v1OnUnknown := some .raise, tag := some ['b'], tagKey := some ['t'] }
    v1TagKey eff ∈ v1KnownKeys eff ci ∧
    v1ClassWith (fun _ v => pure v.toPy) eff ci (.dict [(['t'], .str ['b'])]) = .error (.unknownKeys ['B'] []) := by
  refine ⟨by decide +kernel, by rfl⟩

/-- **dump then load through the Union** (v1 engine): below a main class whose v1 Meta makes the load key case match the dump
transform (`RTV1.Setup`), for a member class K carrying tag `tg` (`RTV1.ClsOK … (some tg)`: the tag key is none of K's
keys) and **any** other members — dataclasses, scalars, containers — of which none answers to the same tag: what `asdict`
writes for an instance of K is loaded back by the Union annotation to exactly that instance. -/
theorem C13_v1_roundtrip_tagged (su : RTV1.Setup) (std : Std) (laws : StdLaws std) (pre post : List Ty) (ci : ClassInfo)
    (ftys : List (S × Ty)) (vals : List PyVal) (tg : S) (hp : RTV1.ClsOK su ci ftys (some tg)) (hlen : vals.length = ftys.length)
    (hvals : ∀ p ∈ ftys.zip vals, RTV1.Conf su std p.1.2 p.2)
    (hpre : ∀ t ∈ pre, tagOf (some su.m) t ≠ some tg) (hpost : ∀ t ∈ post, tagOf (some su.m) t ≠ some tg)
    (d : DVal) (h : dumpV std false (some su.m) (.inst ci ((ftys.map (·.1)).zip vals)) = .ok d) :
    loadV1 std (some su.m) (.union (pre ++ .cls ci ftys :: post)) (RT.toJ d) = .ok (.inst ci ((ftys.map (·.1)).zip vals)) :=
  RTV1.roundtrip std laws _ _ (RTV1.Conf.unionTagged pre post ci ftys vals tg hp hlen hvals hpre hpost) d h

/-- the hypotheses are satisfiable: `Cat(name: str)` with `Meta.tag = 'cat'` below a root with the v1 CAMEL Meta is
`RTV1.ClsOK … (some 'cat')` -/
theorem C13_v1_roundtrip_tagged_example :
    RTV1.ClsOK RTV1.camelSetup
      { name := "Cat".toList, cmeta := some { tag := some "cat".toList }, fields := [{ name := "name".toList }] }
      [("name".toList, .str)] (some "cat".toList) :=
  ⟨by decide +kernel, rfl, by decide +kernel, List.forall_mem_singleton.2 ⟨rfl, rfl, rfl, rfl⟩, List.forall_mem_singleton.2 rfl,
    List.forall_mem_singleton.2 ⟨[], rfl⟩, by decide +kernel, fun _ ht => Option.some.inj ht ▸ rfl,
    fun _ _ => List.forall_mem_singleton.2 (by decide +kernel)⟩

open DW.GenDump in
/-- a field contributes entries and catch-all items, never a tag -/
theorem refFieldEmit_ne_tag (sk2 ocv : Bool) (fi : FieldInfo) (k : S) (v : PyVal) (e : Emit)
    (he : e ∈ refFieldEmit sk2 ocv fi k v) (k' t' : S) : e ≠ .tag k' t' := by
  rintro rfl
  simp [refFieldEmit, apply_ite (Emit.tag k' t' ∈ ·)] at he

open DW.GenDump in
/-- **C13 (the generated dump function writes the tag).**  For any class with a (non-empty) `Meta.tag`, any fields, Meta switches,
call arguments and instance whose skip comparisons do not raise: running the body `dump_func_for_dataclass` writes for the class
ends by writing the class's tag under the configured tag key (`Meta.tag_key`, or `__tag__` when none is set) — after all
field entries, exactly once, whatever the fields are called and whatever they hold. -/
theorem C13_generated_code_writes_tag (p : Char → Bool) (ρ : Env) (eff : MetaCfg) (args : DumpArgs)
    (fks : List (FieldInfo × S)) (vals : S → PyVal) (W : World p eff args fks vals ρ) (dtv ocv : FieldInfo → Bool)
    (Hd : ∀ q ∈ fks, defaultTest eff q.1 (vals q.1.name) = .ok (dtv q.1))
    (Ho : ∀ q ∈ fks, ownCond eff q.1 (vals q.1.name) = .ok (ocv q.1))
    (t : S) (ht : eff.tag = some t) (hne : t ≠ []) :
    ∃ body, run ρ (genBody p (ginOf eff fks)) = .ok (body ++ [.tag (ginOf eff fks).effTagKey t]) ∧
      ∀ e ∈ body, ∀ k t', e ≠ .tag k t' := by
  refine ⟨fks.flatMap (refEmitOf eff args dtv ocv vals), ?_, ?_⟩
  · have hto : (ginOf eff fks).tagOn = some t := by
      cases t with
      | nil => exact absurd rfl hne
      | cons c r => simp only [GIn.tagOn, ginOf, ht]; rfl
    rw [run_genBody_ok p ρ eff args fks vals W dtv ocv Hd Ho, tagEmits, hto]
  · intro e he k t'
    obtain ⟨q, _, hq⟩ := List.mem_flatMap.1 he
    exact refFieldEmit_ne_tag _ _ _ _ _ e hq k t'

end DW.Props.C13
