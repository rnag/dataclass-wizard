/-
C01 — dump-then-load is the identity (default engine).
-/
import DW.Generated.Tables
import DW.Model.Load
import DW.Model.StdLaws
import DW.Lemmas.Strings
import DW.Lemmas.Dump
import DW.Lemmas.RoundTrip
import DW.Lemmas.RoundTripKeys

namespace DW.Props.C01
open DW

/-- JSON view of a dumped scalar (what `json.loads(json.dumps(d))`, or the dict itself, hands to load) -/
def jsonifyScalar : DVal → Option JVal
  | .null => some .null
  | .bool b => some (.bool b)
  | .int i => some (.int i)
  | .float f => some (.float f)
  | .str s => some (.str s)
  | _ => none

/-- The `Z` rewrite of the dump side is undone by the load side on every ISO text that holds no `Z` of its own. -/
theorem C01_z_rewrite_inverse (t : S) (h : 'Z' ∉ t) : zToOffset (isoZ t) = t :=
  zToOffset_isoZ t h

/-- datetime: `load(dump(v)) = v` for every canonical token, any tz offset (incl. UTC written as `Z`). -/
theorem C01_datetime_roundtrip (std : Std) (laws : StdLaws std) (cfg : Option MetaCfg) (t : S)
    (ht : std.validTok .datetime t = true) :
    ∃ d j, dumpScalar std false (.leaf .datetime false t) = .ok d ∧ jsonifyScalar d = some j ∧
      loadD std cfg (.leaf .datetime) j = .ok (.leaf .datetime false t) :=
  ⟨_, _, dumpScalar_leaf std .datetime false t, rfl,
    RT.loadD_leafText std cfg laws .datetime t ht⟩

theorem C01_time_roundtrip (std : Std) (laws : StdLaws std) (cfg : Option MetaCfg) (t : S)
    (ht : std.validTok .time t = true) :
    ∃ d j, dumpScalar std false (.leaf .time false t) = .ok d ∧ jsonifyScalar d = some j ∧
      loadD std cfg (.leaf .time) j = .ok (.leaf .time false t) :=
  ⟨_, _, dumpScalar_leaf std .time false t, rfl,
    RT.loadD_leafText std cfg laws .time t ht⟩

theorem C01_date_roundtrip (std : Std) (laws : StdLaws std) (cfg : Option MetaCfg) (t : S)
    (ht : std.validTok .date t = true) :
    ∃ d j, dumpScalar std false (.leaf .date false t) = .ok d ∧ jsonifyScalar d = some j ∧
      loadD std cfg (.leaf .date) j = .ok (.leaf .date false t) :=
  ⟨_, _, dumpScalar_leaf std .date false t, rfl,
    RT.loadD_leafText std cfg laws .date t ht⟩

theorem C01_decimal_roundtrip (std : Std) (laws : StdLaws std) (cfg : Option MetaCfg) (t : S)
    (ht : std.validTok .decimal t = true) :
    ∃ d j, dumpScalar std false (.leaf .decimal false t) = .ok d ∧ jsonifyScalar d = some j ∧
      loadD std cfg (.leaf .decimal) j = .ok (.leaf .decimal false t) :=
  ⟨_, _, dumpScalar_leaf std .decimal false t, rfl,
    RT.loadD_leafText std cfg laws .decimal t ht⟩

theorem C01_uuid_roundtrip (std : Std) (laws : StdLaws std) (cfg : Option MetaCfg) (t : S)
    (ht : std.validTok .uuid t = true) :
    ∃ d j, dumpScalar std false (.leaf .uuid false t) = .ok d ∧ jsonifyScalar d = some j ∧
      loadD std cfg (.leaf .uuid) j = .ok (.leaf .uuid false t) :=
  ⟨_, _, dumpScalar_leaf std .uuid false t, rfl,
    RT.loadD_leafText std cfg laws .uuid t ht⟩

theorem C01_path_roundtrip (std : Std) (laws : StdLaws std) (cfg : Option MetaCfg) (t : S)
    (ht : std.validTok .path t = true) :
    ∃ d j, dumpScalar std false (.leaf .path false t) = .ok d ∧ jsonifyScalar d = some j ∧
      loadD std cfg (.leaf .path) j = .ok (.leaf .path false t) :=
  ⟨_, _, dumpScalar_leaf std .path false t, rfl,
    RT.loadD_leafText std cfg laws .path t ht⟩

/-- plain JSON scalars are fixed points of dump∘load at their own annotation -/
theorem C01_int_roundtrip (std : Std) (cfg : Option MetaCfg) (i : Int) :
    dumpScalar std false (.int i) = .ok (.int i) ∧ loadD std cfg .int (.int i) = .ok (.int i) :=
  ⟨dumpScalar_int std false i, rfl⟩

theorem C01_bool_roundtrip (std : Std) (cfg : Option MetaCfg) (b : Bool) :
    dumpScalar std false (.bool b) = .ok (.bool b) ∧ loadD std cfg .bool (.bool b) = .ok (.bool b) :=
  ⟨dumpScalar_bool std false b, rfl⟩

theorem C01_str_roundtrip (std : Std) (cfg : Option MetaCfg) (s : S) :
    dumpScalar std false (.str s) = .ok (.str s) ∧ loadD std cfg .str (.str s) = .ok (.str s) :=
  ⟨dumpScalar_str std false s, rfl⟩

theorem C01_float_roundtrip (std : Std) (cfg : Option MetaCfg) (f : PyFloat) :
    dumpScalar std false (.float f) = .ok (.float f) ∧ loadD std cfg .float (.float f) = .ok (.float f) :=
  ⟨dumpScalar_float std false f, rfl⟩

/-- one evaluation of `str(timedelta)`, for a negative value: the text holds a `:`, which is why `as_timedelta` does not take
its numeric-string branch (for every value: `RT.colon_mem_tdStr`). -/
theorem C01_neg_timedelta_text : tdStr (-1000000) = "-1 day, 23:59:59".toList := by decide +kernel

/-- **C01 (structure).** Below any travelling config `cfg` (the recursive Meta of the main class, or none), for every type
of the fragment int / float / str / bool / Decimal / Path / UUID / date / time / datetime / non-negative timedelta
(canonical tokens, under the named `StdLaws`) / Enum (members with pairwise different values) / Literal[...] (the value is
the first member equal to it) / Optional[·] / list[·] / deque[·] / set[·] / frozenset[·] (hashable, pairwise different
elements, in the iteration order of the instance) / tuple[·, ...] / fixed tuples / NamedTuple classes / TypedDict classes
(distinct keys; every Required key present, a NotRequired key present or absent; entries in declaration order — the model
writes a dict as its item list, Python's dict equality does not look at the order) / dict[str, ·] /
defaultdict[str, ·] / OrderedDict[str, ·] / Union of tagged dataclasses and None (pairwise different tags, `RT.OtherMember`;
the tag key is the one of the travelling config and no key of the member, `RT.TagFacts`) / dataclass, tagged or not, — with or without a Meta of its own — whose effective
Meta (`effMeta ci.cmeta cfg`: any key transforms, `recursive` …) has no skip rule / TIMESTAMP mode, without
catch-all or init=False fields, and whose dump keys (first alias when `all=True`, else the effective dump transform of the
name) lead the loader back to their fields (`RT.ClsOK cfg`, a condition on the class alone), nested to any depth,
and every value conforming to it (`RT.Conf`): whatever the dump produces, the JSON image of it (`RT.toJ` = what
`json.loads(json.dumps(·))` returns) loads back to exactly the value. -/
theorem C01_roundtrip_struct (std : Std) (laws : StdLaws std) (cfg : Option MetaCfg) (t : Ty) (v : PyVal)
    (hc : RT.Conf std cfg t v) (d : DVal) (h : dumpV std false cfg v = .ok d) : loadD std cfg t (RT.toJ d) = .ok v :=
  RT.roundtrip std cfg laws t v hc d h

/-- **every `key_transform_with_dump` setting, canonically snake_cased names.** The one condition of `RT.ClsOK` that
speaks about key spellings (`keys`) is a theorem on the property's own name class: for a class whose fields are plain
constructor fields without aliases, named by words `[a-z][a-z0-9]+` joined with `_` (`RT.NameOK`), loaded with the default
key transform, the class is in the fragment of `C01_roundtrip_struct` under *whatever* dump transform its effective Meta
carries (CAMEL — the default —, PASCAL, LISP, SNAKE or NONE). -/
theorem C01_every_dump_transform (cfg : Option MetaCfg) (ci : ClassInfo) (ftys : List (S × Ty))
    (hns : RT.NoSkip (effMeta ci.cmeta cfg)) (htag : (effMeta ci.cmeta cfg).tag = none)
    (hnames : ci.fields.map (·.name) = ftys.map (·.1)) (hnd : (ci.fields.map (·.name)).Nodup)
    (hplain : ∀ f ∈ ci.fields, f.init = true ∧ f.isCatchAll = false ∧ f.dumpSkip = false ∧ f.skipIf = none ∧
      f.loadKeys = [] ∧ f.dumpAll = false)
    (hN : ∀ f ∈ ci.fields, RT.NameOK f.name)
    (hload : (effMeta ci.cmeta cfg).keyTransformLoad.getD .snake = .snake) :
    RT.PlainCls cfg ci ftys :=
  { noSkip := hns, tag := htag, names := hnames, nodup := hnd,
    plain := fun f hf => ⟨(hplain f hf).1, (hplain f hf).2.1, (hplain f hf).2.2.1, (hplain f hf).2.2.2.1⟩,
    keys := RT.keys_of_names cfg ci (fun f hf => ⟨(hplain f hf).1, (hplain f hf).2.2.2.2.1, (hplain f hf).2.2.2.2.2⟩) hN hload
      (fun f hf k hk => by simp [htag]),
    tagFacts := fun t ht => by cases ht }

/-- **the NONE transform, any identifier.** Under `key_transform_with_dump = NONE` the key-spelling condition needs no
assumption on the spelling of the names at all: for a class whose fields are plain constructor fields without aliases
(whatever their names — `t` next to `T`, `userName` next to `user_name`, non-ASCII letters …), the dump key of a field is its
name and the loader resolves a key that *is* a field name to exactly that field, before any key transform or
case-insensitive matching is tried. The proof does not use `htag` (no field of a tagged class is named like its tag key):
the loader looks a key up among the field names before it tests for the tag key (`Tagged.resolveKey_fieldName`). -/
theorem C01_none_transform_any_identifier (cfg : Option MetaCfg) (ci : ClassInfo)
    (hplain : ∀ f ∈ ci.fields, f.init = true ∧ f.loadKeys = [] ∧ f.dumpAll = false)
    (hnone : (effMeta ci.cmeta cfg).keyTransformDump = some .none)
    (htag : ∀ f ∈ ci.fields,
      ((effMeta ci.cmeta cfg).tag.isSome && f.name == RT.tagKeyOf (effMeta ci.cmeta cfg)) = false) :
    ∀ f ∈ ci.fields, dumpKey (effMeta ci.cmeta cfg) f = .ok f.name ∧
      resolveKey (effMeta ci.cmeta cfg) ci f.name = .ok (.field f.name) := by
  intro f hf
  obtain ⟨hinit, _, hall⟩ := hplain f hf
  exact ⟨by simp [dumpKey, hall, hnone, LetterCaseOpt.toLC, Str.LetterCase.apply],
    Tagged.resolveKey_fieldName _ ci _ (RT.aliasTable_nil ci fun g hg => (hplain g hg).2.1)
      (List.mem_map.2 ⟨f, List.mem_filter.2 ⟨hf, by simp [hinit]⟩, rfl⟩)⟩

/-- `user_name`, `zip_code2` and `id` … are names of that class (non-vacuity of `RT.NameOK`) -/
theorem C01_nameOK_examples : RT.NameOK "user_name".toList ∧ RT.NameOK "zip_code2".toList ∧ RT.NameOK "id".toList :=
  ⟨⟨["user".toList, "name".toList], List.cons_ne_nil _ _, by decide +kernel, by decide +kernel⟩,
   ⟨["zip".toList, "code2".toList], List.cons_ne_nil _ _, by decide +kernel, by decide +kernel⟩,
   ⟨["id".toList], List.cons_ne_nil _ _, by decide +kernel, by decide +kernel⟩⟩

/-- … and at the top level: `fromdict(cls, json.loads(json.dumps(asdict(x)))) == x` for every instance of a main class
of the fragment, whatever Meta it declares (its travelling config is `rootConfig ci.cmeta`). -/
theorem C01_roundtrip_root (std : Std) (laws : StdLaws std) (ci : ClassInfo) (ftys : List (S × Ty)) (v : PyVal)
    (hc : RT.Conf std (rootConfig ci.cmeta) (.cls ci ftys) v) (d : DVal) (h : asdict std {} v = .ok d) :
    fromdict std (.cls ci ftys) (RT.toJ d) = .ok v :=
  RT.roundtrip_root std laws ci ftys v hc d h

/-- `Inner` has an aliased field (`all=True`) -/
theorem exInner_plain : RT.PlainCls RT.exCfg RT.exInner RT.exInnerTys :=
  ⟨⟨rfl, rfl, rfl, rfl⟩, rfl, rfl, by decide +kernel, by decide +kernel,
    forall_mem_pair ⟨"val-one".toList, by rfl, by rfl⟩ ⟨"TAGS".toList, by rfl, by rfl⟩, fun _ ht => nomatch ht⟩

/-- `Root` has no aliases and canonically snake_cased names -/
theorem exRoot_plain : RT.PlainCls RT.exCfg RT.exRoot RT.exRootTys :=
  C01_every_dump_transform RT.exCfg RT.exRoot RT.exRootTys ⟨rfl, rfl, rfl, rfl⟩ rfl rfl (by decide +kernel)
    (List.forall_mem_cons.2 ⟨⟨rfl, rfl, rfl, rfl, rfl, rfl⟩,
      forall_mem_pair ⟨rfl, rfl, rfl, rfl, rfl, rfl⟩ ⟨rfl, rfl, rfl, rfl, rfl, rfl⟩⟩)
    (List.forall_mem_cons.2 ⟨⟨["inner".toList, "obj".toList], List.cons_ne_nil _ _, by decide +kernel, by decide +kernel⟩,
      forall_mem_pair ⟨["by".toList, "name".toList], List.cons_ne_nil _ _, by decide +kernel, by decide +kernel⟩
        ⟨["maybe".toList], List.cons_ne_nil _ _, by decide +kernel, by decide +kernel⟩⟩)
    rfl

/-- the hypotheses are satisfiable by a nested, configured model: `Root(inner_obj: Inner, by_name: dict[str, Inner],
maybe: Optional[bool])` declaring `key_transform_with_dump = 'LISP'` with `Inner(val_one: int, tags: list[str] =
json_field(('TAGS', 'labels'), all=True))` — both classes are `PlainCls` below the root's config, and a concrete
instance conforms. -/
theorem C01_roundtrip_example (std : Std) :
    RT.PlainCls RT.exCfg RT.exRoot RT.exRootTys ∧ RT.PlainCls RT.exCfg RT.exInner RT.exInnerTys ∧
    RT.exCfg = rootConfig RT.exRoot.cmeta ∧
    RT.Conf std RT.exCfg (.cls RT.exInner RT.exInnerTys)
      (.inst RT.exInner ((RT.exInnerTys.map (·.1)).zip [.int 3, .seq .list [.str "a".toList, .str [] ]])) :=
  ⟨exRoot_plain, exInner_plain, rfl, RT.Conf.inst _ _ _ none exInner_plain rfl
    (forall_mem_pair (RT.Conf.int 3) (RT.Conf.list _ _ (forall_mem_pair (RT.Conf.str _) (RT.Conf.str _))))⟩

/-- further kinds of the fragment are inhabited: a `set[int]`, a `Literal['a', 1]`, a NamedTuple
`P(x: int, y: Optional[str] = None)` and an `OrderedDict[str, bool]` value conform. -/
theorem C01_roundtrip_example_containers (std : Std) :
    RT.Conf std none (.seq .set .int) (.seq .set [.int 1, .int 2]) ∧
    RT.Conf std none (.literal [.str "a".toList, .int 1]) (Lit.toPy (.int 1)) ∧
    RT.Conf std none (.ntuple "P".toList [("x".toList, .int, none), ("y".toList, .optional .str, some (.lit .none))])
      (.ntuple "P".toList ["x".toList, "y".toList] [.int 1, .none]) ∧
    RT.Conf std none (.map .ordereddict .str .bool) (.map .ordereddict [(.str "k".toList, .bool true)]) :=
  ⟨RT.Conf.set _ _ (by rfl) (by rfl) (forall_mem_pair (RT.Conf.int _) (RT.Conf.int _)),
   RT.Conf.literal _ (.int 1) (by rfl),
   RT.Conf.ntuple "P".toList [("x".toList, .int, none), ("y".toList, .optional .str, some (.lit .none))] [.int 1, .none] rfl
     (forall_mem_pair (RT.Conf.int 1) (RT.Conf.optNone _)),
   RT.Conf.ordereddict .bool [("k".toList, .bool true)] (by decide) (List.forall_mem_singleton.2 (RT.Conf.bool true))⟩

/-- TypedDict values of the fragment exist: for `class TD(TypedDict): a: int; b: NotRequired[str]` both `{'a': 1}` and
`{'a': 1, 'b': 'x'}` conform, and the round trip of the first one is the theorem's instance. -/
theorem C01_roundtrip_example_typeddict (std : Std) (laws : StdLaws std) :
    let td : Ty := .typeddict "TD".toList [("a".toList, .int, true), ("b".toList, .str, false)]
    RT.Conf std none td (.map .dict [(.str "a".toList, .int 1)]) ∧
    RT.Conf std none td (.map .dict [(.str "a".toList, .int 1), (.str "b".toList, .str "x".toList)]) ∧
    loadD std none td (.dict [("a".toList, .int 1)]) = .ok (.map .dict [(.str "a".toList, .int 1)]) := by
  intro td
  have h1 : RT.Conf std none td (.map .dict [(.str "a".toList, .int 1)]) :=
    RT.Conf.typeddict "TD".toList [("a".toList, .int, true), ("b".toList, .str, false)] [some (.int 1), none] (by decide) rfl
      (forall_mem_pair (fun h => nomatch h) (fun _ => rfl))
      (forall_mem_pair (fun _ hv => Option.some.inj hv ▸ RT.Conf.int 1) (fun _ hv => nomatch hv))
  refine ⟨h1, ?_, ?_⟩
  · exact RT.Conf.typeddict "TD".toList [("a".toList, .int, true), ("b".toList, .str, false)]
      [some (.int 1), some (.str "x".toList)] (by decide) rfl
      (forall_mem_pair (fun h => nomatch h) (fun h => nomatch h))
      (forall_mem_pair (fun _ hv => Option.some.inj hv ▸ RT.Conf.int 1) (fun _ hv => Option.some.inj hv ▸ RT.Conf.str _))
  · exact C01_roundtrip_struct std laws none td _ h1 (.dict false [(.str "a".toList, .int 1)]) (by
      rw [dumpV_map, (dumpPairs_cons_ok std false none).2 ⟨_, dumpV_str .., _, dumpV_int .., [], rfl, rfl⟩]
      rfl)

/-! a Union of tagged dataclasses: `Cat(name: str)` with `Meta.tag = 'cat'`, `Dog(name: str)` with `Meta.tag = 'dog'` -/
def exCat : ClassInfo := { name := "Cat".toList, cmeta := some { tag := some "cat".toList }, fields := [{ name := "name".toList }] }
def exDog : ClassInfo := { name := "Dog".toList, cmeta := some { tag := some "dog".toList }, fields := [{ name := "name".toList }] }
def exPetTys : List (S × Ty) := [("name".toList, .str)]

theorem exCat_ok : RT.ClsOK none exCat exPetTys (some "cat".toList) := by
  have hk : dumpKey (effMeta exCat.cmeta none) { name := "name".toList } = .ok "name".toList := by rfl
  refine ⟨⟨rfl, rfl, rfl, rfl⟩, rfl, rfl, by decide +kernel, List.forall_mem_singleton.2 ⟨rfl, rfl, rfl, rfl⟩,
    List.forall_mem_singleton.2 ⟨"name".toList, hk, by rfl⟩, ?_⟩
  intro t ht
  cases ht
  exact ⟨by rfl, by rfl, by decide +kernel, by rfl,
    List.forall_mem_singleton.2 fun h => absurd (Except.ok.inj (hk.symm.trans h)) (by decide +kernel)⟩

/-- the Union / tagged-class hypotheses are satisfiable: `Cat('tom')` conforms to `Union[Cat, Dog, None]` (so the theorem
gives `load(dump(Cat('tom'))) == Cat('tom')` at that annotation), and so does `None`. -/
theorem C01_roundtrip_example_tagged_union (std : Std) :
    RT.Conf std none (.union ([] ++ .cls exCat exPetTys :: [.cls exDog exPetTys, .none]))
      (.inst exCat ((exPetTys.map (·.1)).zip [.str "tom".toList])) ∧
    RT.Conf std none (.union [.cls exCat exPetTys, .cls exDog exPetTys, .none]) .none :=
  ⟨RT.Conf.unionTagged [] _ exCat exPetTys [.str "tom".toList] "cat".toList exCat_ok rfl
      (List.forall_mem_singleton.2 (RT.Conf.str _)) (fun _ ht => nomatch ht)
      (forall_mem_pair ⟨Or.inl rfl, by decide +kernel⟩ ⟨Or.inr rfl, by decide +kernel⟩),
    RT.Conf.unionNone _ (by rfl)⟩

end DW.Props.C01
