/-
C05 — load returns a conforming instance or raises; it never mutates its input.
-/
import DW.Generated.Tables
import DW.Model.Load
import DW.Lemmas.SoundScalar
import DW.Lemmas.Sound
import DW.Lemmas.SoundV1
import DW.Lemmas.Dump

namespace DW.Props.C05
open DW

/-- No default-engine load hook, converter or path getter writes through a parameter
(effect summaries extracted from the source with `ast` on every run). -/
theorem C05_no_input_writes :
    (∀ row ∈ Generated.loadHookEffects, row.2.2 = "") ∧ (∀ row ∈ Generated.convEffects, row.2.2 = "") := by
  constructor <;> decide

/-- … and none of the functions the library *generates* (the per-class `cls_fromdict` / v1 `__dataclass_wizard_from_dict_…` /
`cls_asdict` / EnvWizard functions captured from the battery `harness/battery15.py` on every run) contains a statement that
writes through one of its parameters — no item / attribute assignment or deletion rooted in the document it was given, no
call of a mutating container method on it or on a part of it (AST analysis `harness/gencap.py: param_writes`; the EnvWizard
constructor filling in `self` excluded). The table is regenerated from the generated code on every run. -/
theorem C05_generated_no_input_writes :
    Generated.genParamWrites = [] ∧ 0 < Generated.genFunctionCount := by
  constructor <;> decide

/-- Soundness at scalar annotations, for *every* JSON input (nan, inf, huge, junk, containers):
whatever the default engine returns for `int`, `float`, `str`, `bool`, Decimal/Path/UUID/date/time/datetime,
`timedelta`, an Enum or a `Literal` is a value of that exact type. -/
theorem C05_sound_scalar (std : Std) (cfg : Option MetaCfg) (t : Ty) (ht : isScalarTy t = true) (o : JVal) (y : PyVal)
    (h : loadD std cfg t o = .ok y) : conformsScalar t y = true :=
  sound_scalar std cfg t ht o y h

/-- **C05 (soundness, composite types).** For every type built from the scalar kinds, `Any`, `Optional`, list / set /
frozenset / deque, variadic tuples, fixed-length tuples none of whose members accepts `None` (then the element count is
exact), dict-like types, TypedDict and NamedTuple classes (pairwise distinct field names), `Union`s (of any members of the
fragment, tagged dataclasses and `None`) and dataclasses, nested to any depth (`Frag`), for **every** JSON input and any travelling config: whatever the default engine
returns is an instance of the annotation (`Sound`) — containers of the exact kind whose elements / keys / values are
sound; tuples of exactly the declared length, position by position; TypedDict results holding only declared keys with
sound values and every required key; NamedTuple results of exactly the declared length, each element a sound loaded value
or the field's declared default (from a dict of keyword values or from a sequence); a Union result sound for one of the declared members (or `None` when `None` is
declared); dataclass instances with exactly the declared fields in order, each holding a sound loaded value, the captured
catch-all dictionary, or the field's declared default / `__post_init__` value.
Outside the fragment: fixed-length tuples with `None`-accepting members (recorded finding `short-tuple-with-optional`), the
`None` annotation outside a Union (recorded finding). -/
theorem C05_sound (std : Std) (cfg : Option MetaCfg) (t : Ty) (hf : Frag t) (o : JVal) (y : PyVal)
    (h : loadD std cfg t o = .ok y) : Sound conformsScalar t y :=
  sound std cfg t hf o y h

/-- … and at the entry point: whatever `fromdict(cls, o)` returns for a main class of the fragment, on any JSON input, is a
sound instance of that class (the main class's own Meta is its travelling config). -/
theorem C05_fromdict_sound (std : Std) (ci : ClassInfo) (ftys : List (S × Ty)) (hf : Frag (.cls ci ftys)) (o : JVal) (y : PyVal)
    (h : fromdict std (.cls ci ftys) o = .ok y) : Sound conformsScalar (.cls ci ftys) y := by
  apply sound std (rootConfig ci.cmeta) (.cls ci ftys) hf o y
  unfold loadD; rw [RT.effMeta_root]
  simp only [fromdict] at h
  split at h
  · cases h
  · exact h

/-- **C05 (soundness, v1 engine).** The same statement for the v1 loader: for every type built from the scalar kinds (incl.
`bytes` / `bytearray`; `Literal` members by `==` *and* type), `Any`, `Optional`, list / set /
frozenset / deque, variadic and fixed-length tuples (always exactly the declared length: the generated code indexes
`v1[0] … v1[n-1]`), dict-like types, TypedDict classes, NamedTuple classes (defaulted fields last, as Python demands:
`trailingDefaults`), `Union`s (tag dispatch, the exact-type fast path, try-parse of the
other members, coercion pass) and dataclasses, nested to any depth (`FragV1`), for **every** JSON input and any travelling
config: whatever `loadV1` returns is an instance of the annotation (`Sound conformsScalarV1`). -/
theorem C05_v1_sound (std : Std) (cfg : Option MetaCfg) (t : Ty) (hf : FragV1 t) (o : JVal) (y : PyVal)
    (h : loadV1 std cfg t o = .ok y) : Sound conformsScalarV1 t y :=
  soundV1 std cfg t hf o y h

/-- … and at the entry point `fromdict(cls, o)` of a main class bound to the v1 engine. -/
theorem C05_v1_fromdict_sound (std : Std) (ci : ClassInfo) (ftys : List (S × Ty)) (hf : FragV1 (.cls ci ftys)) (o : JVal) (y : PyVal)
    (h : fromdictV1 std (.cls ci ftys) o = .ok y) : Sound conformsScalarV1 (.cls ci ftys) y := by
  apply soundV1 std (rootConfig ci.cmeta) (.cls ci ftys) hf o y
  unfold loadV1; rw [RT.effMeta_root]
  exact h

/-- the scalar part alone, for every JSON input -/
theorem C05_v1_sound_scalar (std : Std) (cfg : Option MetaCfg) (t : Ty) (ht : isScalarTyV1 t = true) (o : JVal) (y : PyVal)
    (h : loadV1 std cfg t o = .ok y) : conformsScalarV1 t y = true :=
  sound_scalar_v1 std cfg t ht o y h

/-- The v1 `Literal` test is on the *pair* (value, type): whatever `v1Literal` returns is the input itself, and ONE member is
both `==` to it and of its type.  Value and type are not tested independently of each other: for a member list that mixes
types (`Literal[True, 0]`, `Literal[1, 2, 0.5]`) an input that is `==` to one member and carries the type of another one
(`False`, `1`; `1.0`) has no such member and is rejected - see the witnesses below. -/
theorem C05_v1_literal_member_by_value_and_type (vs : List Lit) (o : JVal) (y : PyVal) (h : v1Literal vs o = .ok y) :
    y = o.toPy ∧ ∃ l ∈ vs, jEqLit o l = true ∧ jSameType o l = true := by
  unfold v1Literal at h
  split at h
  · cases h
  · split at h
    · next hany =>
      cases h
      obtain ⟨l, hl, hp⟩ := List.any_eq_true.mp hany
      exact ⟨rfl, l, hl, Bool.and_eq_true_iff.1 hp⟩
    · cases h

/-- … conversely an input no member matches as a pair is rejected, whatever single members it is `==` to or shares the type of -/
theorem C05_v1_literal_rejects (vs : List Lit) (o : JVal) (h : ∀ l ∈ vs, (jEqLit o l && jSameType o l) = false) :
    v1Literal vs o = perr := by
  unfold v1Literal
  split
  · rfl
  · have hany : vs.any (fun l => jEqLit o l && jSameType o l) = false :=
      List.any_eq_false.2 fun l hl => Bool.eq_false_iff.1 (h l hl)
    rw [hany]
    rfl

/-- witnesses on mixed member lists: `Literal[True, 0]` rejects `False` (== 0, the type of True) and `1` (== True, the type
of 0) and returns its members `0` and `True` -/
theorem C05_v1_literal_mixed_witness :
    v1Literal [.bool true, .int 0] (.bool false) = perr ∧ v1Literal [.bool true, .int 0] (.int 1) = perr ∧
    v1Literal [.bool true, .int 0] (.int 0) = .ok (.int 0) ∧ v1Literal [.bool true, .int 0] (.bool true) = .ok (.bool true) := by
  refine ⟨?_, ?_, ?_, ?_⟩ <;> rfl

/-- non-vacuity of `FragV1`: a v1 model with `bytes`, a fixed tuple nested in a fixed tuple, a `Literal`, and a Union of a
simple type, a container, a tagged dataclass and `None` is in the fragment -/
theorem C05_v1_sound_example :
    FragV1 (.cls { name := "R".toList, cmeta := some { v1 := some true }, fields := [{ name := "b".toList }, { name := "t".toList }, { name := "u".toList }] }
      [("b".toList, .bytes), ("t".toList, .tuple [.int, .tuple [.literal [.int 1, .str "a".toList], .bool]]),
       ("u".toList, .union [.int, .seq .list .str, .cls { name := "T".toList, cmeta := some { tag := some "t".toList }, fields := [{ name := "a".toList }] } [("a".toList, .leaf .date)], .none])]) := by
  refine .cls _ _ (List.forall_mem_cons.2 ⟨.scalar _ rfl, List.forall_mem_cons.2 ⟨?_, List.forall_mem_singleton.2 ?_⟩⟩)
  · refine .tuple _ (by simp) (List.forall_mem_cons.2 ⟨.scalar _ rfl, List.forall_mem_singleton.2 ?_⟩)
    exact .tuple _ (by simp) (List.forall_mem_cons.2 ⟨.scalar _ rfl, List.forall_mem_singleton.2 (.scalar _ rfl)⟩)
  · refine .union _ (List.forall_mem_cons.2 ⟨fun _ => .scalar _ rfl, List.forall_mem_cons.2 ⟨fun _ => .seq _ _ (.scalar _ rfl),
      List.forall_mem_cons.2 ⟨fun _ => ?_, List.forall_mem_singleton.2 fun hn => nomatch hn⟩⟩⟩)
    exact .cls _ _ (List.forall_mem_singleton.2 (.scalar _ rfl))

/-- non-vacuity: a nested model is in the fragment -/
theorem C05_sound_example :
    Frag (.cls { name := "R".toList, fields := [{ name := "xs".toList }, { name := "m".toList }] }
      [("xs".toList, .seq .set (.optional .int)), ("m".toList, .map .defaultdict .str (.cls { name := "I".toList, fields := [{ name := "d".toList }] } [("d".toList, .leaf .datetime)]))]) := by
  refine .cls _ _ (List.forall_mem_cons.2 ⟨.seq _ _ (.optional _ (.scalar _ rfl)), List.forall_mem_singleton.2 ?_⟩)
  exact .map _ _ _ (.scalar _ rfl) (.cls _ _ (List.forall_mem_singleton.2 (.scalar _ rfl)))

/-- non-vacuity of the Union / tuple / TypedDict / NamedTuple cases: `Union[int, list[str], Tagged, None]`, `tuple[int, str]`, a
TypedDict with a required and an optional key and the NamedTuple `P(x: int, y: Optional[str] = None)` (both engines) are in the
fragments -/
theorem C05_sound_example_union :
    Frag (.union [.int, .seq .list .str, .cls { name := "T".toList, cmeta := some { tag := some "t".toList }, fields := [{ name := "a".toList }] } [("a".toList, .tuple [.int, .str])], .none]) ∧
    Frag (.typeddict "TD".toList [("k".toList, .int, true), ("opt".toList, .optional .str, false)]) ∧
    Frag (.ntuple "P".toList [("x".toList, .int, none), ("y".toList, .optional .str, some (.lit .none))]) ∧
    FragV1 (.ntuple "P".toList [("x".toList, .int, none), ("y".toList, .optional .str, some (.lit .none))]) := by
  refine ⟨?_, ?_, ?_, ?_⟩
  · refine .union _ (List.forall_mem_cons.2 ⟨fun _ => .scalar _ rfl, List.forall_mem_cons.2 ⟨fun _ => .seq _ _ (.scalar _ rfl),
      List.forall_mem_cons.2 ⟨fun _ => .cls _ _ (List.forall_mem_singleton.2 ?_), List.forall_mem_singleton.2 fun hn => nomatch hn⟩⟩⟩)
    exact .tuple _ (by simp) (List.forall_mem_cons.2 ⟨rfl, List.forall_mem_singleton.2 rfl⟩)
      (List.forall_mem_cons.2 ⟨.scalar _ rfl, List.forall_mem_singleton.2 (.scalar _ rfl)⟩)
  · exact .typeddict _ _ (by decide) (List.forall_mem_cons.2 ⟨.scalar _ rfl, List.forall_mem_singleton.2 (.optional _ (.scalar _ rfl))⟩)
  · exact .ntuple _ _ (by decide) (List.forall_mem_cons.2 ⟨.scalar _ rfl, List.forall_mem_singleton.2 (.optional _ (.scalar _ rfl))⟩)
  · exact .ntuple _ _ rfl (List.forall_mem_cons.2 ⟨.scalar _ rfl, List.forall_mem_singleton.2 (.optional _ (.scalar _ rfl))⟩)

/-- A Union without `None` rejects `null`. -/
theorem C05_union_rejects_none (std : Std) (cfg : Option MetaCfg) :
    loadD std cfg (.union [.int, .str]) .null = .error (.parse none none) := rfl

theorem C05_union_accepts_declared_none (std : Std) (cfg : Option MetaCfg) :
    loadD std cfg (.union [.int, .none, .str]) .null = .ok .none := rfl

/-- Witness of a recorded finding: a position annotated `None` is loaded by the identity parser. -/
theorem C05_none_annotation_witness (std : Std) : loadD std none .none (.int 5) = .ok (.int 5) := rfl

/-- Witness of a recorded finding: `tuple[int, Optional[str]]` accepts `[1]` and returns the 1-tuple `(1,)`. -/
theorem C05_short_tuple_witness (std : Std) :
    loadD std none (.tuple [.int, .optional .str]) (.list [.int 1]) = .ok (.tuple [.int 1]) := rfl

end DW.Props.C05
