/-
C20 — concurrent first use and concurrent calls give the sequential results.
Theorems over `DW.Conc`: for every number of threads and every schedule, each finished call returns the one value a
sequential call returns; the subtype scan of a hook table gives the same hook whatever other threads have cached in
the meantime (the scan of a snapshot is the total function `scanFind`; the scan of the live table can fail:
`C20_live_scan_witness`).  The two broken disciplines have failing schedules.
-/
import DW.Model.Conc
import DW.Generated.Tables

namespace DW.Props.C20
open DW DW.Conc

/-- the entry table is complete -/
def Filled (c : Cfg) (s : Sh) : Prop := ∀ j, j < c.n → s.ent j = some (c.a j)

/-- what holds for a thread at program counter `p`: the entries it relies on are there, and what it has gathered is right -/
def ThrOk (c : Cfg) (s : Sh) : Pc → Prop
  | .start => True
  | .fill i => i < c.n ∧ ∀ j, j < i → s.ent j = some (c.a j)
  | .publish => Filled c s
  | .lookup => Filled c s
  | .gather j acc => j < c.n ∧ Filled c s ∧ acc = (List.range j).map (fun i => some (c.a i))
  | .store acc => acc = full c
  | .store2 acc => acc = full c
  | .done r => r = c.g (full c)

/-- the shared state holds only right values -/
structure ShOk (c : Cfg) (s : Sh) : Prop where
  entOk : ∀ i v, s.ent i = some v → v = c.a i
  flagOk : s.flag = true → Filled c s
  fnOk : ∀ v, s.fn = some v → v = c.g (full c)

/-- the shared state holds only right values and every thread's program counter is right for it -/
structure Inv (c : Cfg) (g : G) : Prop where
  shOk : ShOk c g.sh
  thrOk : ∀ t, ThrOk c g.sh (g.thr t)

/-- entries only ever gain correct values -/
def Mono (c : Cfg) (s s' : Sh) : Prop := ∀ j, s.ent j = some (c.a j) → s'.ent j = some (c.a j)

theorem ThrOk_mono (c : Cfg) (s s' : Sh) (h : Mono c s s') (p : Pc) (hp : ThrOk c s p) : ThrOk c s' p := by
  cases p with
  | fill i => exact ⟨hp.1, fun j hj => h j (hp.2 j hj)⟩
  | publish | lookup => exact fun j hj => h j (hp j hj)
  | gather j acc => exact ⟨hp.1, fun k hk => h k (hp.2.1 k hk), hp.2.2⟩
  | _ => exact hp

theorem Inv_init (c : Cfg) : Inv c G.init := by
  refine ⟨⟨?_, ?_, ?_⟩, ?_⟩ <;> simp [G.init, ThrOk]

theorem Mono_setEnt (c : Cfg) (s : Sh) (i : Nat) : Mono c s (s.setEnt i (c.a i)) := by
  intro j hj
  simp only [Sh.setEnt]
  split
  · subst_vars; rfl
  · exact hj

theorem Mono.refl (c : Cfg) (s : Sh) : Mono c s s := fun _ h => h

theorem ShOk_setEnt (c : Cfg) (s : Sh) (i : Nat) (h : ShOk c s) : ShOk c (s.setEnt i (c.a i)) where
  entOk k v hk := by
    simp only [Sh.setEnt] at hk
    split at hk
    · subst_vars; exact (Option.some.inj hk).symm
    · exact h.entOk k v hk
  flagOk hflag j hj := Mono_setEnt c s i j (h.flagOk hflag j hj)
  fnOk := h.fnOk

/-- one step of one thread (sound discipline: flag last, single-store publish): the shared state stays right, entries are
only gained, and the thread's new program counter is right for the new state -/
theorem stepT_ok (c : Cfg) (hf : c.flagFirst = false) (hp : c.placeholder = false) (s : Sh) (p : Pc)
    (hs : ShOk c s) (ht : ThrOk c s p) :
    ShOk c (stepT c s p).1 ∧ Mono c s (stepT c s p).1 ∧ ThrOk c (stepT c s p).1 (stepT c s p).2 := by
  cases p with
  | start =>
    simp only [stepT, hf, Bool.false_eq_true, if_false]
    by_cases hflag : s.flag = true
    · rw [if_pos hflag]; exact ⟨hs, Mono.refl c s, hs.flagOk hflag⟩
    · rw [if_neg hflag]
      refine ⟨hs, Mono.refl c s, ?_⟩
      split
      · next hn => exact fun j hj => absurd (hn ▸ hj) (Nat.not_lt_zero j)
      · next hn => exact ⟨Nat.pos_of_ne_zero hn, fun j hj => absurd hj (Nat.not_lt_zero j)⟩
  | fill i =>
    have hm := Mono_setEnt c s i
    have hup : ∀ j, j < i + 1 → (s.setEnt i (c.a i)).ent j = some (c.a j) := by
      intro j hj
      rcases Nat.lt_succ_iff_lt_or_eq.mp hj with hji | rfl
      · exact hm j (ht.2 j hji)
      · simp [Sh.setEnt]
    refine ⟨ShOk_setEnt c s i hs, hm, ?_⟩
    simp only [stepT, hf]
    by_cases hlt : i + 1 < c.n
    · rw [if_pos hlt]; exact ⟨hlt, hup⟩
    · rw [if_neg hlt]; exact fun j hj => hup j (Nat.lt_of_lt_of_le hj (Nat.le_of_not_lt hlt))
  | publish => exact ⟨⟨hs.entOk, fun _ => ht, hs.fnOk⟩, fun _ h => h, ht⟩
  | lookup =>
    simp only [stepT]
    cases hfn : s.fn with
    | some v => exact ⟨hs, Mono.refl c s, hs.fnOk v hfn⟩
    | none =>
      refine ⟨hs, Mono.refl c s, ?_⟩
      by_cases hn : c.n = 0
      · simp [ThrOk, full, hn]
      · simp only [hn, if_false]; exact ⟨Nat.pos_of_ne_zero hn, ht, rfl⟩
  | gather j acc =>
    obtain ⟨hj, hfill, hacc⟩ := ht
    have hacc' : acc ++ [s.ent j] = (List.range (j + 1)).map (fun i => some (c.a i)) := by
      rw [hfill j hj, hacc, List.range_succ, List.map_append]
      rfl
    refine ⟨hs, Mono.refl c s, ?_⟩
    simp only [stepT]
    by_cases hlt : j + 1 < c.n
    · rw [if_pos hlt]; exact ⟨hlt, hfill, hacc'⟩
    · rw [if_neg hlt]
      have : j + 1 = c.n := Nat.le_antisymm hj (Nat.le_of_not_lt hlt)
      simp only [ThrOk, full, hacc', this]
  | store acc =>
    obtain rfl : acc = full c := ht
    simp only [stepT, hp]
    exact ⟨⟨hs.entOk, hs.flagOk, fun v hv => (Option.some.inj hv).symm⟩, fun _ h => h, rfl⟩
  | store2 acc =>
    obtain rfl : acc = full c := ht
    exact ⟨⟨hs.entOk, hs.flagOk, fun v hv => (Option.some.inj hv).symm⟩, fun _ h => h, rfl⟩
  | done r => exact ⟨hs, Mono.refl c s, ht⟩

/-- one step of any thread preserves the invariant: the stepping thread by `stepT_ok`, every other thread because entries
are only gained -/
theorem Inv_step (c : Cfg) (hf : c.flagFirst = false) (hp : c.placeholder = false) (g : G) (t : Nat)
    (h : Inv c g) : Inv c (stepG c g t) := by
  obtain ⟨h1, h2, h3⟩ := stepT_ok c hf hp g.sh (g.thr t) h.shOk (h.thrOk t)
  refine ⟨h1, fun x => ?_⟩
  simp only [stepG]
  split
  · exact h3
  · exact ThrOk_mono c g.sh _ h2 _ (h.thrOk x)

theorem Inv_run (c : Cfg) (hf : c.flagFirst = false) (hp : c.placeholder = false) (sched : List Nat) (g : G)
    (h : Inv c g) : Inv c (runG c g sched) := by
  induction sched generalizing g with
  | nil => exact h
  | cons t r ih => exact ih _ (Inv_step c hf hp g t h)

/-- **C20 (first use, any number of threads, any schedule).**  Under the discipline "fill, then publish the flag; build,
then publish with one store", every call that has finished returned exactly what a call returns when it runs alone:
`g` applied to the complete table.  Nothing depends on the schedule.  (Agreement of every result with the sequential one;
nothing is said about the order in which calls take effect.) -/
theorem C20_first_use_linearizable (c : Cfg) (hf : c.flagFirst = false) (hp : c.placeholder = false)
    (sched : List Nat) (t r : Nat) (h : (runG c G.init sched).result t = some r) : r = c.g (full c) := by
  have inv := (Inv_run c hf hp sched G.init (Inv_init c)).thrOk t
  unfold G.result at h
  split at h
  · next r' hr => rw [hr] at inv; exact Option.some.inj h ▸ inv
  · cases h

/-- … and the shared tables never hold a wrong entry, so calls made after the race see what sequential calls see. -/
theorem C20_tables_correct (c : Cfg) (hf : c.flagFirst = false) (hp : c.placeholder = false) (sched : List Nat) :
    let g := runG c G.init sched
    (∀ i v, g.sh.ent i = some v → v = c.a i) ∧ (g.sh.flag = true → Filled c g.sh) ∧
      (∀ v, g.sh.fn = some v → v = c.g (full c)) :=
  let inv := Inv_run c hf hp sched G.init (Inv_init c)
  ⟨inv.shOk.entOk, inv.shOk.flagOk, inv.shOk.fnOk⟩

/-- entries `10, 11, 12`; `g` is a base-31 fold that reads a missing entry as 7, so a table read half-filled shows in the result
(`[10, –, –] ↦ 39625`, the full table `↦ 39754`) -/
def demo : Cfg := { n := 3, a := fun i => i + 10, g := fun acc => acc.foldl (fun h x => 31 * h + x.getD 7) 1 }

/-- a thread running alone does finish, with the sequential result (the theorem above is not vacuous) -/
theorem C20_sequential_witness :
    (runG demo G.init (List.replicate 10 0)).result 0 = some (demo.g (full demo)) ∧
    (runG demo G.init [0, 1, 0, 1, 1, 0, 0, 1, 1, 0, 0, 0, 1, 1, 1, 1, 0, 0, 1, 0]).result 1 = some (demo.g (full demo)) := by
  decide +kernel

/-- the flag-first discipline is broken: thread 1 sees the flag, skips the fill and builds from a half-filled table -/
theorem C20_flag_first_witness :
    (runG { demo with flagFirst := true } G.init [0, 0, 1, 1, 1, 1, 1, 1]).result 1 = some 39625 ∧
    demo.g (full demo) = 39754 := by
  decide +kernel

/-- the provisional-store discipline is broken: thread 1 reads the placeholder -/
theorem C20_placeholder_witness :
    (runG { demo with placeholder := true, provisional := 0 } G.init [0, 0, 0, 0, 0, 0, 0, 0, 0, 0, 1, 1, 1, 1, 1, 1]).result 1 = some 0 := by
  decide +kernel

/-- tables reachable from `t0` by any sequence of subtype cachings (by any threads, in any order) -/
inductive Reach (sub : Nat → Nat → Bool) (t0 : Hooks) : Hooks → Prop
  | base : Reach sub t0 t0
  | cache (tbl : Hooks) (v : Nat) : Reach sub t0 tbl → Reach sub t0 (cacheInsert sub tbl v)

theorem scanFind_append (sub : Nat → Nat → Bool) (tbl : Hooks) (e : Nat × Nat) (v : Nat) :
    scanFind sub (tbl ++ [e]) v = match scanFind sub tbl v with
      | some h => some h
      | none => if sub v e.1 then some e.2 else none := by
  unfold scanFind
  rw [List.find?_append]
  cases h : tbl.find? (fun e => sub v e.1) with
  | some x => simp
  | none => by_cases hs : sub v e.1 = true <;> simp [hs]

theorem scanFind_none_iff (sub : Nat → Nat → Bool) (tbl : Hooks) (v : Nat) :
    scanFind sub tbl v = none ↔ ∀ e ∈ tbl, sub v e.1 = false := by
  unfold scanFind
  simp [List.find?_eq_none]

/-- **C20 (subtype scan).**  Whatever other threads have cached in the meantime, a scan of the table for `v` finds the
hook a scan of the original table finds: a snapshot taken at any moment is as good as any other. -/
theorem C20_scan_schedule_independent (sub : Nat → Nat → Bool)
    (trans : ∀ a b c, sub a b = true → sub b c = true → sub a c = true)
    (t0 tbl : Hooks) (h : Reach sub t0 tbl) (v : Nat) : scanFind sub tbl v = scanFind sub t0 v := by
  induction h with
  | base => rfl
  | cache tbl' w _ ih =>
    unfold cacheInsert
    cases hw : scanFind sub tbl' w with
    | none => exact ih
    | some hk =>
      simp only
      rw [scanFind_append, ← ih]
      cases hv : scanFind sub tbl' v with
      | some x => rfl
      | none =>
        simp only
        by_cases hs : sub v w = true
        · -- no entry of `tbl'` is a base of `v`, so none is a base of `w`: contradiction with `hw`
          have hnone := (scanFind_none_iff sub tbl' v).1 hv
          have hwn : scanFind sub tbl' w = none := (scanFind_none_iff sub tbl' w).2 fun e he =>
            Bool.eq_false_iff.2 fun hsub => Bool.eq_false_iff.1 (hnone e he) (trans v w e.1 hs hsub)
          rw [hwn] at hw
          cases hw
        · simp [hs]

/-- a scan over the live table fails as soon as another thread's caching lands during the iteration (first conjunct); a scan
over a snapshot, be it the table before that caching or after it, finds the hook (the other two) -/
theorem C20_live_scan_witness :
    let sub : Nat → Nat → Bool := fun a b => a == b || (a == 5 && b == 2) || (a == 6 && b == 2)
    let t0 : Hooks := [(0, 100), (1, 101), (2, 102)]
    -- thread B caches subtype 6 after thread A (scanning for 5) has looked at one entry
    liveScan sub t0.length 5 0 10 (fun pos => if pos = 0 then t0 else cacheInsert sub t0 6) = none ∧
    scanFind sub t0 5 = some 102 ∧ scanFind sub (cacheInsert sub t0 6) 5 = some 102 := by
  decide +kernel

/-! ### the discipline, read off the source (regenerated on every run) -/

/-- `setup_dump_config_for_cls_if_needed` / `_setup_v1_load_config_for_cls` publish their flag as their last store;
`Env.load_environ` publishes the snapshot with one assignment; the hook scans iterate snapshots; no per-class table entry is
published empty and filled afterwards. -/
theorem C20_code_discipline :
    DW.Generated.concDiscipline.all (fun e => e.2 = "ok") = true := by
  decide +kernel

end DW.Props.C20
