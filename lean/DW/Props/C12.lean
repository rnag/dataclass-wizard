/-
C12 — Meta cascades to nested classes with documented priority unless recursive=False.
Many of the theorems are one defining equation of the model (`rfl`, or one unfolding): they display which config the model
hands to which call, so that the cascade can be read off; that the library hands on the same is the correspondence check's part.
-/
import DW.Generated.Tables
import DW.Model.Dump
import DW.Model.Load
import DW.Model.LoadV1

namespace DW.Props.C12
open DW

/-- the attribute sets in the source (regenerated on every run): the four special attributes are never merged,
everything else annotated on AbstractMeta is -/
theorem C12_attribute_sets :
    Generated.metaSpecial = ["json_key_to_field", "recursive", "tag", "v1_field_to_alias"] ∧
    Generated.metaToMerge = ["auto_assign_tags", "debug_enabled", "key_transform_with_dump", "key_transform_with_load",
      "marshal_date_time_as", "raise_on_unknown_json_key", "recursive_classes", "skip_defaults", "skip_defaults_if",
      "skip_if", "tag_key", "v1", "v1_debug", "v1_key_case", "v1_on_unknown_key", "v1_unsafe_parse_dataclass_in_union"] ∧
    (∀ a ∈ Generated.metaToMerge, Generated.metaSpecial.contains a = false) ∧
    (∀ a ∈ Generated.metaFields, (Generated.metaToMerge.contains a || Generated.metaSpecial.contains a) = true) := by
  decide +kernel

/-- merge specification, for eleven of the fourteen settings `MetaCfg.orElse` merges (`recursiveClasses`, `v1`, `v1Unsafe`
are merged the same way and not listed): the nested class's own value if it sets one, else the root's -/
theorem C12_merge_spec (n r : MetaCfg) :
    (n.orElse r).keyTransformDump = (n.keyTransformDump <|> r.keyTransformDump) ∧
    (n.orElse r).keyTransformLoad = (n.keyTransformLoad <|> r.keyTransformLoad) ∧
    (n.orElse r).marshalTimestamp = (n.marshalTimestamp <|> r.marshalTimestamp) ∧
    (n.orElse r).skipDefaults = (n.skipDefaults <|> r.skipDefaults) ∧
    (n.orElse r).skipIf = (n.skipIf <|> r.skipIf) ∧
    (n.orElse r).skipDefaultsIf = (n.skipDefaultsIf <|> r.skipDefaultsIf) ∧
    (n.orElse r).raiseOnUnknown = (n.raiseOnUnknown <|> r.raiseOnUnknown) ∧
    (n.orElse r).tagKey = (n.tagKey <|> r.tagKey) ∧
    (n.orElse r).autoAssignTags = (n.autoAssignTags <|> r.autoAssignTags) ∧
    (n.orElse r).v1KeyCase = (n.v1KeyCase <|> r.v1KeyCase) ∧
    (n.orElse r).v1OnUnknown = (n.v1OnUnknown <|> r.v1OnUnknown) := by
  simp [MetaCfg.orElse]

/-- `tag` and `recursive` are never inherited -/
theorem C12_special_never_inherited (n r : MetaCfg) :
    (n.orElse r).tag = n.tag ∧ (n.orElse r).recursive = n.recursive := ⟨rfl, rfl⟩

theorem C12_special_never_inherited_no_meta (r : MetaCfg) :
    (effMeta none (some r)).tag = none ∧ (effMeta none (some r)).recursive = none := ⟨rfl, rfl⟩

/-- a nested class without Meta behaves under the root's mergeable settings; one with a Meta keeps its own choices -/
theorem C12_effective (own r : MetaCfg) :
    effMeta (some own) (some r) = own.orElse r ∧ effMeta none (some r) = ({} : MetaCfg).orElse r ∧
    effMeta (some own) none = own := ⟨rfl, rfl, rfl⟩

/-- with recursive=False on the root nothing is handed down: nested classes behave as on their own -/
theorem C12_recursive_false (r : MetaCfg) (h : r.recursive = some false) (own : Option MetaCfg) :
    rootConfig (some r) = none ∧ effMeta own (rootConfig (some r)) = effMeta own none := by
  have : rootConfig (some r) = none := by simp [rootConfig, h]
  exact ⟨this, by rw [this]⟩

/-- ... and is handed down otherwise -/
theorem C12_recursive_default (r : MetaCfg) (h : r.recursive ≠ some false) : rootConfig (some r) = some r := by
  simp only [rootConfig]
  rcases hr : r.recursive with _ | _ | _
  · rfl
  · exact absurd hr h
  · rfl

/-- The element loops hand the travelling config on unchanged: `dumpList` (through which `dumpV` dumps the elements of
lists / tuples / sets / deques and named tuples) and `dumpPairs` (dict keys and values) dump every element under the same
`cfg` as the rest. These are the two loops' cons equations; that `dumpV` calls them with its own `cfg` is its definition. -/
theorem C12_config_travels_list (std : Std) (ts : Bool) (cfg : Option MetaCfg) (x : PyVal) (xs : List PyVal) :
    dumpList std ts cfg (x :: xs) = (do
      let y ← dumpV std ts cfg x
      let ys ← dumpList std ts cfg xs
      pure (y :: ys)) := by
  simp [dumpList]

theorem C12_config_travels_pairs (std : Std) (ts : Bool) (cfg : Option MetaCfg) (k v : PyVal) (r : List (PyVal × PyVal)) :
    dumpPairs std ts cfg ((k, v) :: r) = (do
      let k' ← dumpV std ts cfg k
      let v' ← dumpV std ts cfg v
      let r' ← dumpPairs std ts cfg r
      pure ((k', v') :: r')) := by
  simp [dumpPairs]

/-- a nested instance is dumped under merge(own, root) — and its own fields again see the *root* config (not the
merge), so the cascade does not compound through intermediate classes -/
theorem C12_nested_instance (std : Std) (ts : Bool) (cfg : Option MetaCfg) (ci : ClassInfo) (fields : List (S × PyVal)) :
    dumpV std ts cfg (.inst ci fields) = (do
      let body ← dumpFields std ((effMeta ci.cmeta cfg).marshalTimestamp.getD false) cfg (effMeta ci.cmeta cfg) {} ci fields
      pure (finishInst (effMeta ci.cmeta cfg) body)) := rfl

/-- load side: a nested dataclass is loaded under merge(own, root) with the same travelling config -/
theorem C12_nested_load (std : Std) (cfg : Option MetaCfg) (ci : ClassInfo) (ftys : List (S × Ty)) (o : JVal) :
    loadD std cfg (.cls ci ftys) o
      = loadClassWith (fun f v => loadField std cfg f v ftys) (effMeta ci.cmeta cfg) ci o := rfl

/-! ### v1 engine

`load_func_for_dataclass` (v1) keeps the root's config in `extras['config']` for the whole generation; a nested class does
`meta = meta | config` for *itself* and hands `extras` on unchanged. -/

/-- the main class of a v1 load runs under its own Meta and hands down `rootConfig` (nothing with recursive=False) -/
theorem C12_v1_root (std : Std) (ci : ClassInfo) (ftys : List (S × Ty)) (o : JVal) :
    fromdictV1 std (.cls ci ftys) o
      = v1ClassWith (fun f v => v1Field std (rootConfig ci.cmeta) f v ftys) (effMeta ci.cmeta none) ci o := rfl

/-- a nested dataclass reached with travelling config `cfg` is loaded under merge(own, cfg) — and its own fields are again
converted under `cfg` itself, not under the merge: what a class sets for itself stops at that class -/
theorem C12_v1_nested_load (std : Std) (cfg : Option MetaCfg) (ci : ClassInfo) (ftys : List (S × Ty)) (o : JVal) :
    loadV1 std cfg (.cls ci ftys) o
      = v1ClassWith (fun f v => v1Field std cfg f v ftys) (effMeta ci.cmeta cfg) ci o := rfl

/-- the config travels unchanged through Optional, lists / sets / deques, variadic tuples and dict keys / values -/
theorem C12_v1_config_travels (std : Std) (cfg : Option MetaCfg) (t kt vt : Ty) (k : SeqKind) (mk : MapKind)
    (o : JVal) (xs : List JVal) (kvs : List (S × JVal)) (hnn : o.kind ≠ .null) :
    loadV1 std cfg (.optional t) o = loadV1 std cfg t o ∧
    loadV1 std cfg (.seq k t) (.list xs) = (do
      let ys ← mapME (fun x => loadV1 std cfg t x) xs
      (mkSeq k ys).mapError v1Wrap) ∧
    loadV1 std cfg (.vtuple t) (.list xs) = (do
      let ys ← mapME (fun x => loadV1 std cfg t x) xs
      pure (.tuple ys)) ∧
    loadV1 std cfg (.map mk kt vt) (.dict kvs) = (do
      let ps ← mapME (fun (kv : S × JVal) => do
          let k' ← loadV1 std cfg kt (.str kv.1)
          let v' ← loadV1 std cfg vt kv.2
          pure (k', v')) kvs
      (mkMap mk ps).mapError v1Wrap) := by
  refine ⟨?_, rfl, rfl, rfl⟩
  cases o with
  | null => exact absurd rfl hnn
  | _ => rfl

/-- Two levels down (root → mid → leaf): the function generated for the leaf field of `mid` runs under
merge(leaf's own Meta, the ROOT's config). `mid`'s Meta does not occur in it — whatever `mid` sets for itself
(unknown-key policy, key case, tag key, …) never reaches the leaf. -/
theorem C12_v1_two_levels_down (std : Std) (root mid leaf : ClassInfo) (g : S) (lf : List (S × Ty)) (kvs : List (S × JVal)) :
    loadV1 std (rootConfig root.cmeta) (.cls mid [(g, .cls leaf lf)]) (.dict kvs)
      = v1ClassWith (fun f v => if g == f then
            v1ClassWith (fun f' v' => v1Field std (rootConfig root.cmeta) f' v' lf)
              (effMeta leaf.cmeta (rootConfig root.cmeta)) leaf v
          else .error (.unsupported "field without type".toList))
        (effMeta mid.cmeta (rootConfig root.cmeta)) mid (.dict kvs) := rfl

/-- the v1 settings a class ends up with under a recursive root: its own, else the root's — in closed form -/
theorem C12_v1_effective_settings (own : Option MetaCfg) (r : MetaCfg) (h : r.recursive ≠ some false) :
    (effMeta own (rootConfig (some r))).v1OnUnknown = ((own.bind (·.v1OnUnknown)) <|> r.v1OnUnknown) ∧
    (effMeta own (rootConfig (some r))).v1KeyCase = ((own.bind (·.v1KeyCase)) <|> r.v1KeyCase) ∧
    (effMeta own (rootConfig (some r))).tagKey = ((own.bind (·.tagKey)) <|> r.tagKey) ∧
    (effMeta own (rootConfig (some r))).tag = own.bind (·.tag) := by
  rw [C12_recursive_default r h]
  cases own <;> exact ⟨rfl, rfl, rfl, rfl⟩

/-- ... and with recursive=False on the root: its own only -/
theorem C12_v1_effective_settings_nonrecursive (own : Option MetaCfg) (r : MetaCfg) (h : r.recursive = some false) :
    (effMeta own (rootConfig (some r))).v1OnUnknown = own.bind (·.v1OnUnknown) ∧
    (effMeta own (rootConfig (some r))).v1KeyCase = own.bind (·.v1KeyCase) := by
  rw [(C12_recursive_false r h own).1]
  cases own <;> exact ⟨rfl, rfl⟩

/-- Example (the case the trial change `/verif/seeded/C12-M3` gets wrong: there `mid`'s merged Meta is handed further down):
root without policy, `mid` with v1_on_unknown_key = RAISE for itself, leaf without Meta. An unknown key inside the leaf is
ignored; the same key inside `mid` is rejected, naming `mid`. -/
theorem C12_v1_mid_policy_stops_at_mid (std : Std) :
    let leaf : Ty := .cls { name := ['L'], fields := [{ name := ['a'] }] } [(['a'], .any)]
    let mid : Ty := .cls { name := ['M'], fields := [{ name := ['l'] }], cmeta := some { v1OnUnknown := some .raise } } [(['l'], leaf)]
    let root : Ty := .cls { name := ['R'], fields := [{ name := ['m'] }], cmeta := some { v1 := some true } } [(['m'], mid)]
    (∃ y, fromdictV1 std root (.dict [(['m'], .dict [(['l'], .dict [(['a'], .int 1), (['z'], .int 2)])])]) = .ok y) ∧
    fromdictV1 std root (.dict [(['m'], .dict [(['l'], .dict [(['a'], .int 1)]), (['z'], .int 2)])])
      = .error (.unknownKeys ['M'] [['z']]) := by
  refine ⟨⟨_, rfl⟩, rfl⟩

/-- Example (the tag key a nested class tolerates is the one of its EFFECTIVE Meta): the leaf declares `tag = t` and
`tag_key = k` itself, the root cascades `v1_on_unknown_key = RAISE` and another `tag_key = r`. Inside the leaf the
key `k` is the (known) tag key; the root's key `r` is an unknown key there and is rejected, naming the leaf. -/
theorem C12_v1_own_tag_key_wins (std : Std) :
    let leaf : Ty := .cls { name := ['L'], fields := [{ name := ['a'] }], cmeta := some { tag := some ['t'], tagKey := some ['k'] } }
      [(['a'], .any)]
    let rmeta : MetaCfg := { v1 := some true, v1OnUnknown := some .raise, tagKey := some ['r'] }
    let root : Ty := .cls { name := ['R'], fields := [{ name := ['m'] }], cmeta := some rmeta } [(['m'], leaf)]
    (∃ y, fromdictV1 std root (.dict [(['m'], .dict [(['a'], .int 1), (['k'], .str ['t'])])]) = .ok y) ∧
    fromdictV1 std root (.dict [(['m'], .dict [(['a'], .int 1), (['r'], .str ['t'])])])
      = .error (.unknownKeys ['L'] [['r']]) := by
  refine ⟨⟨_, rfl⟩, rfl⟩

end DW.Props.C12
