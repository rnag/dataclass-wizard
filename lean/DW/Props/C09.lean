/-
C09 — absent keys: defaults for optional fields, else one exact MissingFields error.
First the constructor step alone (`finishClass`, the `cls(**init_kwargs)` step of the generated loader, reached with the converted
values of the keys present in the document); then the default engine at the level of documents (deleting keys from a document that
loads, `C09_key_deletion`); then the same statements for the function the v1 engine generates.
-/
import DW.Model.Load
import DW.Model.LoadV1
import DW.Lemmas.V1
import DW.Lemmas.KeyLoop
import DW.Lemmas.Build

namespace DW.Props.C09
open DW

/-- the constructor fields without default that the document did not provide -/
def requiredMissing (ci : ClassInfo) (provided : List S) : List S :=
  (missingInit ci provided).map (·.name)

def noCatchAll (ci : ClassInfo) : Prop := ci.fields.find? (·.isCatchAll) = none

/-- If a required constructor field is absent, the outcome is MissingFields naming the class and *exactly*
the absent required constructor fields (in declaration order) — nothing else, for any document. -/
theorem C09_missing_exact (ci : ClassInfo) (kwargs : List (S × PyVal)) (o : JVal) (hc : noCatchAll ci)
    (hm : requiredMissing ci (kwargs.map (·.1)) ≠ []) :
    finishClass ci kwargs [] o = .error (.missingFields ci.name (requiredMissing ci (kwargs.map (·.1)))) := by
  rw [Build.finishClass_noCatchAll ci kwargs [] o hc, finishKw]
  unfold requiredMissing at hm ⊢
  cases hL : missingInit ci (kwargs.map (·.1)) with
  | nil => simp [hL] at hm
  | cons a l => rfl

theorem mem_requiredMissing_iff (ci : ClassInfo) (provided : List S) (n : S) :
    n ∈ requiredMissing ci provided ↔ ∃ f ∈ ci.fields, f.name = n ∧ f.init = true ∧ f.dflt = none ∧ n ∉ provided := by
  unfold requiredMissing missingInit
  simp only [List.mem_map, List.mem_filter, Bool.and_eq_true, Option.isNone_iff_eq_none, Bool.not_eq_true',
    List.contains_eq_mem, decide_eq_false_iff_not]
  constructor
  · rintro ⟨f, ⟨hf, ⟨hi, hd⟩, hn⟩, rfl⟩
    exact ⟨f, hf, rfl, hi, hd, hn⟩
  · rintro ⟨f, hf, rfl, hi, hd, hn⟩
    exact ⟨f, ⟨hf, ⟨hi, hd⟩, hn⟩, rfl⟩

/-- init=False fields are never demanded: no name in a MissingFields list belongs to an init=False field. -/
theorem C09_init_false_never_demanded (ci : ClassInfo) (provided : List S) (n : S)
    (h : n ∈ requiredMissing ci provided) : ∃ f ∈ ci.fields, f.name = n ∧ f.init = true ∧ f.dflt = none :=
  let ⟨f, hf, hn, hi, hd, _⟩ := (mem_requiredMissing_iff ci provided n).1 h
  ⟨f, hf, hn, hi, hd⟩

/-- a field with a default is never reported missing -/
theorem C09_defaulted_never_missing (ci : ClassInfo) (provided : List S) (f : FieldInfo)
    (hd : f.dflt.isSome = true) (_hf : f ∈ ci.fields)
    (huniq : ∀ g ∈ ci.fields, g.name = f.name → g = f) : f.name ∉ requiredMissing ci provided := by
  intro h
  obtain ⟨g, hg, hn, _, hdn⟩ := C09_init_false_never_demanded ci provided f.name h
  rw [huniq g hg hn] at hdn
  rw [hdn] at hd
  cases hd

/-- On success the instance has exactly the declared fields, in declaration order; every field present in
the document holds the (last) converted value, every omitted one its declared default. -/
theorem C09_success_fields (ci : ClassInfo) (kwargs : List (S × PyVal)) (o : JVal) (hc : noCatchAll ci)
    (ci' : ClassInfo) (out : List (S × PyVal)) (h : finishClass ci kwargs [] o = .ok (.inst ci' out)) :
    ci' = ci ∧ out.map (·.1) = ci.fields.map (·.name) ∧
      ∀ p ∈ out, ∃ f ∈ ci.fields, p.1 = f.name ∧ fieldValue kwargs f = some p.2 := by
  rw [Build.finishClass_noCatchAll ci kwargs [] o hc] at h
  obtain ⟨_, fs, hb, hx⟩ := Build.finishKw_ok_iff.mp h
  cases hx
  exact ⟨rfl, Build.buildFields_spec kwargs ci.fields _ hb⟩

/-- ... and loading succeeds only if no required constructor field is absent. -/
theorem C09_success_only_if_complete (ci : ClassInfo) (kwargs : List (S × PyVal)) (o : JVal) (hc : noCatchAll ci)
    (y : PyVal) (h : finishClass ci kwargs [] o = .ok y) : requiredMissing ci (kwargs.map (·.1)) = [] := by
  refine Decidable.byContradiction fun hm => ?_
  rw [C09_missing_exact ci kwargs o hc hm] at h
  cases h


/-! ### the document-level statement (default engine): deleting keys from a document that loads -/

open DW.KeyLoop in
/-- exactly which names the error lists: the constructor fields without default to which no key of the document resolves -/
theorem C09_absent_iff (eff : MetaCfg) (ci : ClassInfo) (kvs : List (S × JVal)) (n : S) :
    n ∈ requiredMissing ci (resolvedFields eff ci kvs) ↔
      ∃ f ∈ ci.fields, f.name = n ∧ f.init = true ∧ f.dflt = none ∧ n ∉ resolvedFields eff ci kvs :=
  mem_requiredMissing_iff ci _ n

open DW.KeyLoop in
/-- **C09 (default engine, at the level of documents).** Take any class without catch-all field, any per-field loaders and
any effective Meta, a document `kvs` that loads, and delete any set of keys from it (`keep` says which stay). Let
`absent` be the constructor fields without default to which no remaining key resolves (`C09_absent_iff`). Then the
sub-document loads exactly when `absent` is empty: if it is not, the outcome is MissingFields naming the class and exactly
`absent`, in declaration order; if it is, the outcome is an instance with exactly the declared fields in which every field
holds the converted value of the last remaining key that resolves to it, else its declared default (a fresh product),
else its `__post_init__` value. No other outcome exists: conversions that succeeded in the whole document succeed in the
part, and nothing a deleted key contributed is seen. -/
theorem C09_key_deletion (fl : S → JVal → LRes) (eff : MetaCfg) (ci : ClassInfo) (kvs : List (S × JVal)) (hc : noCatchAll ci)
    (x : PyVal) (hfull : loadClassWith fl eff ci (.dict kvs) = .ok x) (keep : S → Bool) :
    let kvs' := kvs.filter (fun kv => keep kv.1)
    let absent := requiredMissing ci (resolvedFields eff ci kvs')
    (absent ≠ [] → loadClassWith fl eff ci (.dict kvs') = .error (.missingFields ci.name absent)) ∧
    (absent = [] → ∃ out, loadClassWith fl eff ci (.dict kvs') = .ok (.inst ci out) ∧
        out.map (·.1) = ci.fields.map (·.name) ∧
        ∀ p ∈ out, ∃ f ∈ ci.fields, p.1 = f.name ∧ fieldValue (loadedPairs fl eff ci kvs') f = some p.2) := by
  intro kvs' absent
  -- the whole document: the key loop got through, and the constructor step succeeded
  rw [loadClassWith] at hfull
  obtain ⟨⟨kw, ca⟩, hk, hfull⟩ := Except.bind_eq_ok.mp hfull
  have hfull : finishKw ci kw = .ok x := Build.finishClass_noCatchAll ci kw ca (.dict kvs) hc ▸ hfull
  obtain ⟨⟨kw', ca'⟩, (hk' : loadKeysWith fl eff ci kvs' = _)⟩ := loadKeysWith_filter fl eff ci keep kvs (kw, ca) hk
  obtain ⟨hkw', hnames'⟩ := loadKeysWith_ok fl eff ci kvs' kw' ca' hk'
  have hload : loadClassWith fl eff ci (.dict kvs') = finishKw ci kw' := by
    rw [loadClassWith, hk']
    exact Build.finishClass_noCatchAll ci kw' ca' (.dict kvs') hc
  rw [hload]
  refine ⟨fun hne => ?_, fun he => ?_⟩
  · have := C09_missing_exact ci kw' (.dict kvs') hc (hnames' ▸ hne)
    rwa [Build.finishClass_noCatchAll ci kw' [] (.dict kvs') hc, hnames'] at this
  · -- every field has a value again: an init=False field the value it had for the whole document, a constructor
    -- field its default or the value of a remaining key
    obtain ⟨_, fs, hb, _⟩ := Build.finishKw_ok_iff.mp hfull
    have hall := (Build.buildFields_isOk_iff kw ci.fields).1 ⟨fs, hb⟩
    have hall' : ∀ f ∈ ci.fields, (fieldValue kw' f).isSome = true := by
      intro f hf
      cases hi : f.init with
      | false => rw [Build.fieldValue_initFalse kw' kw f hi]; exact hall f hf
      | true =>
        cases hd : f.dflt with
        | some d => exact Build.fieldValue_isSome_of_dflt kw' f (by rw [hd]; rfl)
        | none =>
          refine Build.fieldValue_isSome_of_mem kw' f hi ?_
          rw [hnames']
          refine Decidable.byContradiction fun hcon => ?_
          have : f.name ∈ absent := (C09_absent_iff eff ci kvs' f.name).2 ⟨f, hf, rfl, hi, hd, hcon⟩
          rw [he] at this
          cases this
    obtain ⟨out, hout⟩ := (Build.buildFields_isOk_iff kw' ci.fields).2 hall'
    have hm : missingInit ci (kw'.map (·.1)) = [] := by rw [hnames']; exact List.map_eq_nil_iff.1 he
    exact ⟨out, Build.finishKw_ok_iff.mpr ⟨hm, out, hout, rfl⟩, hkw' ▸ Build.buildFields_spec kw' ci.fields out hout⟩

def exP : ClassInfo :=
  { name := "P".toList, fields := [{ name := "a".toList }, { name := "tags".toList, dflt := some .emptyList, isFactory := true }] }
def exFl : S → JVal → LRes := fun _ v => .ok v.toPy
def exDoc : List (S × JVal) := [("a".toList, .int 1), ("tags".toList, .int 2)]

/-- the hypotheses of `C09_key_deletion` are met, and both outcomes occur: for `class P: a: int; tags: list = field(default_factory=list)`
the document `{'a': 1, 'tags': 2}` loads; without `'a'` the error lists exactly `a`; without `'tags'` the field holds a
fresh `[]`. -/
theorem C09_key_deletion_example :
    noCatchAll exP ∧
    loadClassWith exFl {} exP (.dict exDoc) = .ok (.inst exP [("a".toList, .int 1), ("tags".toList, .int 2)]) ∧
    loadClassWith exFl {} exP (.dict (exDoc.filter (fun kv => kv.1 != "a".toList))) = .error (.missingFields "P".toList ["a".toList]) ∧
    loadClassWith exFl {} exP (.dict (exDoc.filter (fun kv => kv.1 != "tags".toList))) =
      .ok (.inst exP [("a".toList, .int 1), ("tags".toList, .seq .list [])]) := by
  refine ⟨by unfold noCatchAll; decide, by rfl, by rfl, by rfl⟩

/-! ### v1 engine

The generated v1 function looks every constructor field up under its key(s), binds a local for each one found, and
converts the `UnboundLocalError` / `TypeError` of `cls(...)` into MissingFields (`check_and_raise_missing_fields`). -/

open DW.Lemmas.V1 in
/-- the constructor fields without default none of whose keys is present in the document (declaration order) -/
def v1RequiredAbsent (eff : MetaCfg) (ci : ClassInfo) (kvs : List (S × JVal)) : List S :=
  (ci.fields.filter (fun f => f.init && f.dflt.isNone && !present eff kvs f)).map (·.name)

open DW.Lemmas.V1 in
/-- what the constructor step finds missing after the v1 field loop is `v1RequiredAbsent` -/
theorem v1RequiredAbsent_eq (fl : S → JVal → LRes) (eff : MetaCfg) (ci : ClassInfo) (kvs : List (S × JVal))
    (kw : List (S × PyVal)) (n : Nat) (hnames : (ci.fields.map (·.name)).Nodup) (hc : noCatchAll ci)
    (hok : v1Fields fl eff ci kvs ci.fields = .ok (kw, n)) :
    requiredMissing ci (kw.map (·.1)) = v1RequiredAbsent eff ci kvs := by
  obtain ⟨hkw, _⟩ := v1Fields_returns fl eff ci kvs ci.fields kw n hok
  unfold requiredMissing v1RequiredAbsent missingInit
  refine congrArg _ (List.filter_congr fun f hf => ?_)
  have hnc : f.isCatchAll = false := Bool.eq_false_iff.2 (List.find?_eq_none.1 hc f hf)
  have hprov : (kw.map (·.1)).contains f.name = (f.init && present eff kvs f) := by
    rw [hkw, List.filter_filter, Bool.eq_iff_iff, List.contains_iff_mem,
      name_mem_filter_iff (·.name) ci.fields hnames _ f hf, hnc]
    cases f.init <;> cases present eff kvs f <;> decide
  rw [hprov]
  cases f.init <;> cases f.dflt.isNone <;> cases present eff kvs f <;> rfl

/-- C09, v1 engine: when a required constructor field is absent — and the class neither rejects unknown keys nor has a
catch-all field — the outcome is MissingFields naming the class and *exactly* the required constructor fields none of whose
keys is in the document, in declaration order, whatever else the document holds. -/
theorem C09_v1_missing_exact (fl : S → JVal → LRes) (eff : MetaCfg) (ci : ClassInfo) (kvs : List (S × JVal))
    (kw : List (S × PyVal)) (n : Nat) (hnames : (ci.fields.map (·.name)).Nodup) (hc : noCatchAll ci)
    (hraise : eff.v1OnUnknown ≠ some .raise)
    (hok : v1Fields fl eff ci kvs ci.fields = .ok (kw, n))
    (hm : v1RequiredAbsent eff ci kvs ≠ []) :
    v1ClassWith fl eff ci (.dict kvs) = .error (.missingFields ci.name (v1RequiredAbsent eff ci kvs)) := by
  rw [DW.Lemmas.V1.v1ClassWith_drops hok hraise hc]
  rw [← v1RequiredAbsent_eq fl eff ci kvs kw n hnames hc hok] at hm ⊢
  exact C09_missing_exact ci kw (.dict kvs) hc hm

open DW.Lemmas.V1 in
/-- init=False fields are never demanded by the v1 engine: every name in the list belongs to a *constructor* field without
default whose key is absent from the document. -/
theorem C09_v1_init_false_never_demanded (eff : MetaCfg) (ci : ClassInfo) (kvs : List (S × JVal)) (nme : S)
    (h : nme ∈ v1RequiredAbsent eff ci kvs) :
    ∃ f ∈ ci.fields, f.name = nme ∧ f.init = true ∧ f.dflt = none ∧ present eff kvs f = false := by
  unfold v1RequiredAbsent at h
  simp only [List.mem_map, List.mem_filter, Bool.and_eq_true, Option.isNone_iff_eq_none, Bool.not_eq_true'] at h
  obtain ⟨f, ⟨hf, hp⟩, rfl⟩ := h
  exact ⟨f, hf, rfl, hp.1.1, hp.1.2, hp.2⟩

/-- the field loop itself never hands an init=False field (or the catch-all field) to the constructor -/
theorem C09_v1_kwargs_constructor_fields_only (fl : S → JVal → LRes) (eff : MetaCfg) (ci : ClassInfo) (kvs : List (S × JVal))
    (kw : List (S × PyVal)) (n : Nat) (hok : v1Fields fl eff ci kvs ci.fields = .ok (kw, n)) (p : S × PyVal) (hp : p ∈ kw) :
    ∃ f ∈ ci.fields, f.name = p.1 ∧ f.init = true ∧ f.isCatchAll = false ∧ DW.Lemmas.V1.present eff kvs f = true := by
  obtain ⟨hkw, _⟩ := DW.Lemmas.V1.v1Fields_returns fl eff ci kvs ci.fields kw n hok
  have : p.1 ∈ kw.map (·.1) := List.mem_map_of_mem hp
  rw [hkw] at this
  obtain ⟨f, hf, hn⟩ := List.mem_map.mp this
  simp only [List.mem_filter, Bool.and_eq_true, Bool.not_eq_true'] at hf
  exact ⟨f, hf.1.1, hn, hf.1.2.1, hf.1.2.2, hf.2⟩

/-- Conversely the v1 load gets past the MissingFields check only when no required key is absent; on success the instance
has the declared fields in order, each present field holding the converted value and each omitted one its default. -/
theorem C09_v1_success_fields (fl : S → JVal → LRes) (eff : MetaCfg) (ci : ClassInfo) (kvs : List (S × JVal))
    (kw : List (S × PyVal)) (n : Nat) (hnames : (ci.fields.map (·.name)).Nodup) (hc : noCatchAll ci)
    (hraise : eff.v1OnUnknown ≠ some .raise)
    (hok : v1Fields fl eff ci kvs ci.fields = .ok (kw, n))
    (ci' : ClassInfo) (out : List (S × PyVal)) (h : v1ClassWith fl eff ci (.dict kvs) = .ok (.inst ci' out)) :
    v1RequiredAbsent eff ci kvs = [] ∧ ci' = ci ∧ out.map (·.1) = ci.fields.map (·.name) ∧
      ∀ p ∈ out, ∃ f ∈ ci.fields, p.1 = f.name ∧ fieldValue kw f = some p.2 := by
  constructor
  · refine Decidable.byContradiction fun hm => ?_
    rw [C09_v1_missing_exact fl eff ci kvs kw n hnames hc hraise hok hm] at h
    cases h
  · rw [DW.Lemmas.V1.v1ClassWith_drops hok hraise hc] at h
    exact C09_success_fields ci kw (.dict kvs) hc ci' out h

/-- omissions at any nesting depth: a MissingFields raised while converting a nested value travels through the handlers of
the enclosing classes unchanged (it keeps naming the nested class and its own missing fields) -/
theorem C09_v1_nested_missing_unchanged (c f c' : S) (ms : List S) :
    v1SetAttr c f (.missingFields c' ms) = .missingFields c' ms := rfl

end DW.Props.C09
