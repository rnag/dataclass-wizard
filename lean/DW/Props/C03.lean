/-
C03 — dump emits the documented wire encoding, JSON-safe, fresh and side-effect free.
The property theorems, and the table of documented encoders the scan theorem speaks about.
-/
import DW.Generated.Tables
import DW.Lemmas.DumpSafe
import DW.Props.C11   -- for `C11_dump_model_realises_generated_code`, the joint `C03_generated_code_json_safe` combines

namespace DW.Props.C03
open DW

/-- Runtime types the documentation speaks about, as MRO lists (most specific first), with the
encoder each must reach.  `"<sub>"` stands for any user subclass of the stdlib type, `"<enum>"` for a user's Enum class: any name
that is not registered would do (`PyVal.mro` writes `"<user>"`), the scan then goes by the rest of the MRO. -/
def documentedEncoders : List (List String × String) :=
  [ (["NoneType"], "dump_with_null"), (["bool", "int"], "dump_with_bool"), (["int"], "dump_with_int"),
    (["float"], "dump_with_float"), (["str"], "dump_with_str"),
    (["bytes"], "dump_with_bytes"), (["bytearray"], "dump_with_bytes"),
    (["<enum>", "Enum"], "dump_with_enum"),
    (["UUID"], "dump_with_uuid"), (["<sub>", "UUID"], "dump_with_uuid"),
    (["Decimal"], "dump_with_decimal"), (["<sub>", "Decimal"], "dump_with_decimal"),
    (["datetime", "date"], "dump_with_datetime"), (["<sub>", "datetime", "date"], "dump_with_datetime"),
    (["date"], "dump_with_date"), (["<sub>", "date"], "dump_with_date"),
    (["time"], "dump_with_time"), (["<sub>", "time"], "dump_with_time"),
    (["timedelta"], "dump_with_timedelta"), (["<sub>", "timedelta"], "dump_with_timedelta"),
    (["set"], "dump_with_iterable"), (["frozenset"], "dump_with_iterable"), (["deque"], "dump_with_iterable"),
    (["<sub>", "set"], "dump_with_iterable"), (["<sub>", "frozenset"], "dump_with_iterable"),
    (["list"], "dump_with_list_or_tuple"), (["tuple"], "dump_with_list_or_tuple"),
    (["<sub>", "list"], "dump_with_list_or_tuple"),
    (["defaultdict", "dict"], "dump_with_defaultdict"), (["<sub>", "defaultdict", "dict"], "dump_with_defaultdict"),
    (["dict"], "dump_with_dict"), (["OrderedDict", "dict"], "dump_with_dict"), (["<sub>", "dict"], "dump_with_dict"),
    (["PosixPath", "Path", "PurePosixPath", "PurePath"], "default_dump_with") ]

/-- The isinstance scan over the registration table (regenerated from the source on every run)
reaches the documented, most specific encoder for every documented runtime type, including
subclasses: e.g. a `datetime` subclass must not be caught by the `date` hook. -/
theorem C03_scan_specific :
    ∀ p ∈ documentedEncoders, chooseHook Generated.dumpHooks p.1 = p.2 := by decide +kernel

/-- No dump hook writes through its arguments (effect summaries extracted from the source by `ast`). -/
theorem C03_hooks_pure :
    ∀ row ∈ Generated.dumpHookEffects, row.2.2 = "" := by decide

/-- every DumpMixin hook the model interprets exists in the source -/
theorem C03_hooks_present :
    ∀ h ∈ ["dump_with_null", "dump_with_bool", "dump_with_int", "dump_with_float", "dump_with_str",
            "dump_with_bytes", "dump_with_enum", "dump_with_uuid", "dump_with_decimal", "dump_with_datetime",
            "dump_with_date", "dump_with_time", "dump_with_timedelta", "dump_with_iterable",
            "dump_with_list_or_tuple", "dump_with_defaultdict", "dump_with_dict", "dump_with_named_tuple",
            "default_dump_with"],
      (Generated.dumpHookEffects.map (·.1)).contains h = true := by decide +kernel

/-- Every scalar value of the universe (including instances of proper subclasses of the stdlib value
types) dumps to a JSON-safe scalar, in ISO and in TIMESTAMP mode, whenever the dump does not raise. -/
theorem C03_scalar_json_safe (std : Std) (ts : Bool) (v : PyVal) (d : DVal) (hv : v.isScalar = true)
    (h : dumpScalar std ts v = .ok d) : jsonSafe d = true :=
  scalar_json_safe std ts v d hv h

/-- **C03 (JSON-safe, every value).** Whatever the value — any nesting of dataclasses, containers, named tuples and
scalars incl. subclasses of the stdlib value types, any Meta, any travelling config, ISO or TIMESTAMP mode — a dump that
does not raise contains no node the standard encoder would refuse. `wellKeyed` only asks that the keys of *catch-all*
dictionaries are scalars (what `json.loads` produces). (`jsonSafe` does not restrict the keys of user dictionaries: `dict[tuple, …]` is outside it.) -/
theorem C03_json_safe (std : Std) (ts : Bool) (cfg : Option MetaCfg) (v : PyVal) (d : DVal)
    (hw : wellKeyed v = true) (h : dumpV std ts cfg v = .ok d) : jsonSafe d = true :=
  dumpV_safe std cfg ts v d hw h

/-- the hypothesis is satisfiable by a nested instance with a catch-all field, and the conclusion is not vacuous -/
theorem C03_json_safe_example :
    wellKeyed (.inst { name := "K".toList, fields := [{ name := "a".toList }, { name := "rest".toList, isCatchAll := true }] }
      [("a".toList, .seq .list [.int 1, .none]), ("rest".toList, .map .dict [(.str "x".toList, .tuple [.bool true])])]) = true := by
  decide

open DW.GenDump in
/-- **C03 (the generated dump function, JSON-safe).**  Combine the two joints of the chain: for any class `ci` (fields `fks` with their
resolved keys, found by name), any travelling config, and any instance whose values are well keyed and whose skip comparisons do not
raise — run the body `dump_func_for_dataclass` writes for the class (the text compared byte for byte with the library's output) in the
environment the generator sets up, and apply `asdict` to the entries it emits: if that succeeds, every key / value pair obtained is
accepted by the standard JSON encoder. -/
theorem C03_generated_code_json_safe (p : Char → Bool) (std : Std) (cfg : Option MetaCfg) (ci : ClassInfo)
    (fks : List (FieldInfo × S)) (vals : S → PyVal)
    (hw : wellKeyed (.inst ci (fks.map (fun q => (q.1.name, vals q.1.name)))) = true)
    (hfind : ∀ q ∈ fks, ci.fields.find? (fun f => f.name == q.1.name) = some q.1)
    (Hd : ∀ q ∈ fks, ∃ b, defaultTest (effMeta ci.cmeta cfg) q.1 (vals q.1.name) = .ok b)
    (Ho : ∀ q ∈ fks, ∃ b, ownCond (effMeta ci.cmeta cfg) q.1 (vals q.1.name) = .ok b)
    (Hk : ∀ q ∈ fks, q.1.isCatchAll = false → q.1.dumpSkip = false → dumpKey (effMeta ci.cmeta cfg) q.1 = .ok q.2) :
    ∃ out, run (envOf (effMeta ci.cmeta cfg) {} fks vals) (genBody p (ginOf (effMeta ci.cmeta cfg) fks)) =
        .ok (out ++ tagEmits (ginOf (effMeta ci.cmeta cfg) fks)) ∧
      ∀ body, realise std ((effMeta ci.cmeta cfg).marshalTimestamp.getD false) cfg vals out = .ok body →
        jsonSafePairs body = true := by
  obtain ⟨out, hrun, hdump⟩ := DW.Props.C11.C11_dump_model_realises_generated_code p std
    ((effMeta ci.cmeta cfg).marshalTimestamp.getD false) cfg (effMeta ci.cmeta cfg) {} ci fks vals hfind Hd Ho Hk
  refine ⟨out, hrun, fun body hb => ?_⟩
  rw [← hdump] at hb
  -- `wellKeyed` of an instance is `wellKeyedFields` of its fields
  exact dumpFields_safe std cfg _ _ {} ci _ body hw hb

end DW.Props.C03
