/-
C16 — field properties get their declared default through the setter, in every style.

Model: DW/Model/C16.lean (class-body shadowing `classDict`, the metaclass `propertyWizard`, `@dataclass`, `__init__`,
the wrapped setter).  The theorems quantify over arbitrary member lists / annotation terms / argument lists (those named
`_example` / `_witness` are closed instances); the metaclass-level ones are proved by induction over the namespace fold,
the instance-level ones by induction over the field list of `__init__`.
-/
import DW.Model.C16
import DW.Lemmas.C16

namespace DW.Props.C16
open DW.C16

/-- Field order is preserved: after the metaclass the annotation names are those of the class body, each underscored
annotation that is paired with a settable property (`exposed`) replaced by its public name, first occurrences kept,
order unchanged — for every member list. -/
theorem C16_field_order (q : Quirks) (ms : List Member) :
    (dataclassFields (propertyWizard q ms)).map (·.name)
      = dedup [] ((keys (classDict ms).anns).map (expose (classDict ms))) := by
  unfold dataclassFields
  rw [← keys_propertyWizard_anns q ms, List.map_map]
  exact (List.map_congr_left fun n _ => dfieldOf_name _ n).trans (List.map_id _)

/-- Constructor parameters: when `@dataclass` accepts the class, (1) its fields are the annotation names under their
public names in declaration order, the constructor parameters being those with `init=True` in that order (the second
conjunct is the definition of `ctorParams`); (2) every settable property paired with a field is a constructor parameter
under its PUBLIC name whose default is the property object itself; (3) an exposed underscored annotation name is no
longer a field. -/
theorem C16_ctor_params (q : Quirks) (ms : List Member) (fs : List DField)
    (hd : dataclass (propertyWizard q ms) = .ok fs) :
    fs.map (·.name) = dedup [] ((keys (classDict ms).anns).map (expose (classDict ms)))
    ∧ ctorParams fs = fs.filter (·.init)
    ∧ (∀ f ∈ settableNames (classDict ms).ns, paired (classDict ms).anns f = true →
        ({ name := pubOf f, dflt := .value .propObj, init := true } : DField) ∈ ctorParams fs)
    ∧ (∀ n, exposed (classDict ms) n = true → n ∉ fs.map (·.name)) := by
  obtain rfl := dataclass_ok hd
  refine ⟨C16_field_order q ms, rfl, ?_, ?_⟩
  · intro f hf hp
    obtain ⟨o, fv, hw⟩ : Wrapped (wizardState q (classDict ms)).attrs (pubOf f) := by
      rw [wizardState_names]; exact foldl_wrapped q _ f hp _ _ hf
    exact List.mem_filter.2 ⟨List.mem_map.2 ⟨pubOf f, pubOf_mem_keys q ms f hf hp, dfieldOf_prop hw⟩, rfl⟩
  · intro n he hmem
    rw [C16_field_order, mem_dedup, List.mem_map] at hmem
    obtain ⟨m, _, hm⟩ := hmem.resolve_left List.not_mem_nil
    -- `n = expose m` is underscored, so `m` is not exposed (`lstrip m` is not underscored), and then `n = m`
    have hun := isUnder_of_exposed he
    unfold expose at hm
    split at hm
    · rw [← hm, isUnder_lstrip] at hun; cases hun
    · next hem => exact hem (hm ▸ he)

/-- Under independence (no two settable properties write the same class attribute) every paired settable property
`f` ends up under its public name as a property whose setter is wrapped with exactly the declared default
(`declaredDefault`, stated style by style: explicit value / field(default) / field(default_factory) of the partner
field, else what the surviving annotation carries in `Annotated[..., field(..)]` or implies by its type, else
None). -/
theorem C16_default_chosen (q : Quirks) (ms : List Member) (f : Name)
    (hind : independent (settableNames (classDict ms).ns) = true)
    (hf : f ∈ settableNames (classDict ms).ns) (hp : paired (classDict ms).anns f = true) :
    get (pubOf f) (propertyWizard q ms).attrs
      = some (.prop f true (some (declaredDefault q (classDict ms) f))) := by
  show get (pubOf f) (wizardState q (classDict ms)).attrs = _
  rw [wizardState_names]
  exact foldl_default_chosen q (classDict ms).anns (classDict ms).ns f hp _ _ hind hf rfl

/-- the IDE style of docs/using_field_properties.rst: a helper `_x: T = field(init=False)` without a default does not
hide the default carried by the public annotation -/
theorem C16_public_annotation_beats_empty_helper (q : Quirks) (anns : List (Name × Ty)) (f : Name) (fs : FieldSpec)
    (i : Bool) (hf : isUnder f = false) (hu : (get ('_' :: f) anns).isSome = true) (hpub : (get f anns).isSome = true)
    (hfs : fs.isSet = false) :
    declaredDefaultWith q anns f (some (.field fs i)) = defaultFromAnnotation anns f := by
  unfold declaredDefaultWith
  simp [hf, hu, hpub, explicitDefault, hfs]

/-- when field and property share one name only the annotation survives: the default is the one the annotation
carries or implies, whatever value the shadowed assignment had -/
theorem C16_same_name_uses_annotation (q : Quirks) (anns : List (Name × Ty)) (f : Name) (pv : Option NsVal)
    (h : (get (partner f) anns).isSome = false) :
    declaredDefaultWith q anns f pv = defaultFromAnnotation anns f := by
  unfold declaredDefaultWith
  unfold partner at h
  cases hf : isUnder f <;> simp [hf] at h <;> simp [h]

/-- a zero value that is a list, dict or set (or an instance of a subclass: defaultdict, OrderedDict, Counter, list
subclasses) is never stored as a shared default: the type itself becomes the factory -/
theorem C16_mutable_zero_is_factory (t : Ty) (a : Atom) (h : callZero t = some a) (hl : a.isLDS = true) :
    fromType t = { dflt := none, factory := some (.atom a) } := by
  simp [fromType, h, hl]

/-- Omitted argument, any class: if slot `p` holds a property wrapped with `fv`, is an `init` field whose
default is the property object, and the call does not pass `p`, then the constructor calls the user's setter for `p`
exactly once, with a new product of the factory (allocation number `n` inside this construction's range), else the
default, else None; and the getter returns that value. -/
theorem C16_wrapped_default_routed (c0 : Cls) (fs : List DField) (args : List (Name × Val)) (c c' : Nat) (i : Inst)
    (p o : Name) (fv : FieldSpec)
    (hnd : (fs.map (·.name)).Nodup)
    (hp : get p c0.attrs = some (.prop o true (some fv)))
    (hfd : ({ name := p, dflt := .value .propObj, init := true } : DField) ∈ fs)
    (harg : get p args = none)
    (h : construct c0 fs args c = .ok (i, c')) :
    ∃ n, c ≤ n ∧ n ≤ c' ∧ (fv.factory.isSome = true → n < c')
      ∧ logOf p i = [(p, routedDefault fv n)] ∧ get p i.store = some (routedDefault fv n) := by
  obtain ⟨n, h1, h2, h3, h4⟩ := initLoop_field c0.attrs args p o (some fv) hp .propObj fs {} c i c' hnd (construct_ok h)
    ⟨_, hfd, rfl, by intro c1; simp [bindField, harg]⟩
  have hw := wrapW_omitted fv n
  rw [hw.1] at h3 h4
  rw [hw.2] at h2
  refine ⟨n, h1, ?_, ?_, by simpa [logOf] using h3, h4⟩
  · split at h2
    · exact Nat.le_of_succ_le h2
    · exact h2
  · intro hfac
    rwa [if_pos hfac] at h2

/-- Omitted argument, end to end: for every member list whose settable properties are independent, every paired
settable property `f`, every accepted construction that does not pass its public name: the user's setter is called
exactly once with the DECLARED default — a fresh factory product, the declared / carried / implied value, or None —
and the getter returns it. -/
theorem C16_default_routed (q : Quirks) (ms : List Member) (fs : List DField) (f : Name)
    (args : List (Name × Val)) (c c' : Nat) (i : Inst)
    (hind : independent (settableNames (classDict ms).ns) = true)
    (hf : f ∈ settableNames (classDict ms).ns) (hp : paired (classDict ms).anns f = true)
    (hd : dataclass (propertyWizard q ms) = .ok fs)
    (harg : get (pubOf f) args = none)
    (h : construct (propertyWizard q ms) fs args c = .ok (i, c')) :
    ∃ n, c ≤ n ∧ n ≤ c' ∧ ((declaredDefault q (classDict ms) f).factory.isSome = true → n < c')
      ∧ logOf (pubOf f) i = [(pubOf f, routedDefault (declaredDefault q (classDict ms) f) n)]
      ∧ get (pubOf f) i.store = some (routedDefault (declaredDefault q (classDict ms) f) n) := by
  have hcp := C16_ctor_params q ms fs hd
  have hnd : (fs.map (·.name)).Nodup := by
    rw [hcp.1, ← keys_propertyWizard_anns q ms]
    exact nodup_keys_propertyWizard_anns q ms
  exact C16_wrapped_default_routed (propertyWizard q ms) fs args c c' i (pubOf f) f _ hnd
    (C16_default_chosen q ms f hind hf hp) (List.mem_filter.mp (hcp.2.2.1 f hf hp)).1 harg h

/-- Supplied argument: whatever the property slot `p` is wrapped with (or not wrapped at all), a value that is not
itself a property object goes to the user's setter unchanged, exactly once, and the getter returns it. -/
theorem C16_value_routed (c0 : Cls) (fs : List DField) (args : List (Name × Val)) (c c' : Nat) (i : Inst)
    (p o : Name) (w : Option FieldSpec) (d : DDefault) (v : Val)
    (hnd : (fs.map (·.name)).Nodup)
    (hp : get p c0.attrs = some (.prop o true w))
    (hfd : ({ name := p, dflt := d, init := true } : DField) ∈ fs)
    (harg : get p args = some v) (hv : v ≠ .propObj)
    (h : construct c0 fs args c = .ok (i, c')) :
    logOf p i = [(p, v)] ∧ get p i.store = some v := by
  obtain ⟨n, _, _, h3, h4⟩ := initLoop_field c0.attrs args p o w hp v fs {} c i c' hnd (construct_ok h)
    ⟨_, hfd, rfl, by intro c1; simp [bindField, harg]⟩
  rw [wrapW_of_ne_propObj w v n hv] at h3 h4
  exact ⟨by simpa [logOf] using h3, h4⟩

/-- Later assignment `inst.p = v` goes through the user's setter as well: one more call, with `v`. -/
theorem C16_assignment_routed (c0 : Cls) (i : Inst) (c : Nat) (p o : Name) (w : Option FieldSpec) (v : Val)
    (hp : get p c0.attrs = some (.prop o true w)) (hv : v ≠ .propObj) :
    ∃ i2, assign c0 i c p v = .ok (i2, c) ∧ i2.log = i.log ++ [(p, v)] ∧ get p i2.store = some v := by
  refine ⟨{ log := i.log ++ [(p, v)], store := put p v i.store }, ?_, rfl, by simp [get_put_self]⟩
  unfold assign
  rw [setAttr_prop c0.attrs i c p o w v hp, wrapW_of_ne_propObj w v c hv]

/-- Factory freshness: two constructions of the same class, the second started at or after the allocation count
where the first ended, both omitting `p` whose setter is wrapped with a `default_factory`: the two setter calls
receive products with DIFFERENT allocation numbers (distinct objects), each made by that factory. -/
theorem C16_factory_fresh (c0 : Cls) (fs : List DField) (args1 args2 : List (Name × Val)) (c1 c1' c2 c2' : Nat)
    (i1 i2 : Inst) (p o : Name) (fv : FieldSpec) (fac : Factory)
    (hnd : (fs.map (·.name)).Nodup)
    (hp : get p c0.attrs = some (.prop o true (some fv))) (hfac : fv.factory = some fac)
    (hfd : ({ name := p, dflt := .value .propObj, init := true } : DField) ∈ fs)
    (ha1 : get p args1 = none) (ha2 : get p args2 = none)
    (h1 : construct c0 fs args1 c1 = .ok (i1, c1')) (hseq : c1' ≤ c2)
    (h2 : construct c0 fs args2 c2 = .ok (i2, c2')) :
    ∃ n1 n2, logOf p i1 = [(p, .product fac n1)] ∧ logOf p i2 = [(p, .product fac n2)] ∧ n1 ≠ n2 := by
  obtain ⟨n1, _, _, hlt1, hl1, _⟩ := C16_wrapped_default_routed c0 fs args1 c1 c1' i1 p o fv hnd hp hfd ha1 h1
  obtain ⟨n2, hge2, _, _, hl2, _⟩ := C16_wrapped_default_routed c0 fs args2 c2 c2' i2 p o fv hnd hp hfd ha2 h2
  have hr : ∀ n, routedDefault fv n = .product fac n := by intro n; simp [routedDefault, hfac]
  refine ⟨n1, n2, by rw [hl1, hr], by rw [hl2, hr], ?_⟩
  have : n1 < c1' := hlt1 (by simp [hfac])
  exact Nat.ne_of_lt (Nat.lt_of_lt_of_le this (Nat.le_trans hseq hge2))

/-- Frame: a class attribute that no PAIRED settable property touches (neither its own name nor its partner name)
is bound after the metaclass to exactly what the class body bound it to — read-only properties, ordinary
properties, plain attributes, methods, ordinary fields — for every member list. -/
theorem C16_untouched (q : Quirks) (ms : List Member) (k : Name)
    (h : ∀ f ∈ settableNames (classDict ms).ns, paired (classDict ms).anns f = true → f ≠ k ∧ partner f ≠ k) :
    get k (propertyWizard q ms).attrs = get k (classDict ms).ns := by
  show get k (wizardState q (classDict ms)).attrs = _
  rw [wizardState_eq]
  exact foldl_frame q _ k _ _ (fun f hf => h f (List.mem_filter.mp hf).1 (List.mem_filter.mp hf).2)

/-- read-only properties are skipped outright: a read-only property never changes the state of the metaclass -/
theorem C16_readonly_skipped (q : Quirks) (anns : List (Name × Ty)) (st : WState) (f o : Name) (w : Option FieldSpec) :
    stepNs q anns st (f, .prop o false w) = st := rfl

/-- an ordinary settable property (neither its name nor its partner annotated) is skipped as well -/
theorem C16_unpaired_skipped (q : Quirks) (anns : List (Name × Ty)) (st : WState) (f o : Name) (w : Option FieldSpec)
    (h : paired anns f = false) : stepNs q anns st (f, .prop o true w) = st :=
  stepProp_unpaired q anns st f h

/-- a class without paired settable properties comes out exactly as its body declared it: same annotations in the
same order, same attributes -/
theorem C16_untouched_class (q : Quirks) (ms : List Member)
    (h : ∀ f ∈ settableNames (classDict ms).ns, paired (classDict ms).anns f = false) :
    (propertyWizard q ms).anns = (classDict ms).anns ∧ (propertyWizard q ms).attrs = (classDict ms).ns := by
  have hst : wizardState q (classDict ms) = { attrs := (classDict ms).ns } := by
    rw [wizardState_eq, List.filter_eq_nil_iff.mpr (fun f hf => by simp [h f hf])]
    rfl
  simp [propertyWizard, hst]

/-- Without the deviation (`Quirks.clean`), a default declared by plain value next to an underscored property IS the
default, whatever the annotation implies. -/
theorem C16_plain_default_wins_clean (anns : List (Name × Ty)) (f : Name) (l : Lit)
    (hf : isUnder f = true) (hpub : (get (lstrip f) anns).isSome = true) :
    declaredDefaultWith Quirks.clean anns f (some (.lit l)) = { dflt := some (.lit l), factory := none } := by
  unfold declaredDefaultWith
  simp [hf, hpub, Quirks.clean, toVal]

/-- With the deviation the same holds only when the public annotation neither carries nor implies a factory (the allocation
count `0` plays no role: without a factory `routedDefault` does not read it). -/
theorem C16_plain_default_partial (q : Quirks) (anns : List (Name × Ty)) (f : Name) (l : Lit)
    (hf : isUnder f = true) (hpub : (get (lstrip f) anns).isSome = true)
    (hnf : (defaultFromAnnotation anns (lstrip f)).factory = none) :
    routedDefault (declaredDefaultWith q anns f (some (.lit l))) 0 = .lit l := by
  unfold declaredDefaultWith
  simp only [hf, if_true, hpub]
  cases hq : q.underPlainKeepsFactory <;> simp [routedDefault, hnf, toVal]

/-- Witness (the code as it stands, probed by the harness): `wheels: list = None` with a property `_wheels` — the
declared default None is ignored and a fresh list goes through the setter. -/
theorem C16_plain_default_witness :
    let ms : List Member := [.annAssign "wheels".toList (.atom .list) (.lit .none), .prop "_wheels".toList true]
    let q : Quirks := { underPlainKeepsFactory := true }
    ∃ fs i c', dataclass (propertyWizard q ms) = .ok fs
      ∧ construct (propertyWizard q ms) fs [] 0 = .ok (i, c')
      ∧ i.log = [("wheels".toList, .product (.atom .list) 0)]
      ∧ (∀ fs' i' c'', dataclass (propertyWizard Quirks.clean ms) = .ok fs' →
          construct (propertyWizard Quirks.clean ms) fs' [] 0 = .ok (i', c'') →
          i'.log = [("wheels".toList, .lit .none)]) := by
  refine ⟨[{ name := "wheels".toList, dflt := .value .propObj, init := true }],
          { log := [("wheels".toList, .product (.atom .list) 0)], store := [("wheels".toList, .product (.atom .list) 0)] },
          1, by rfl, by rfl, rfl, ?_⟩
  intro fs' i' c'' h1 h2
  have e1 : dataclass (propertyWizard Quirks.clean
      [.annAssign "wheels".toList (.atom .list) (.lit .none), .prop "_wheels".toList true])
      = .ok [{ name := "wheels".toList, dflt := .value .propObj, init := true }] := by rfl
  rw [e1] at h1
  simp only [Except.ok.injEq] at h1
  subst h1
  have e2 : construct (propertyWizard Quirks.clean
      [.annAssign "wheels".toList (.atom .list) (.lit .none), .prop "_wheels".toList true])
      [{ name := "wheels".toList, dflt := .value .propObj, init := true }] [] 0
      = .ok ({ log := [("wheels".toList, .lit .none)], store := [("wheels".toList, .lit .none)] }, 0) := by rfl
  rw [e2] at h2
  simp only [Except.ok.injEq, Prod.mk.injEq] at h2
  rw [← h2.1]

/-- the IDE style of the documentation, end to end: `wheels: Annotated[int, field(default=4)]`, helper
`_wheels: int = field(init=False)`, public property: one constructor parameter `wheels`, the setter receives 4 -/
theorem C16_ide_style_example :
    let ms : List Member :=
      [.ann "wheels".toList (.annotated (.atom .int) [.field { dflt := some (.lit (.int 4)) }]),
       .annAssign "_wheels".toList (.atom .int) (.field {} false),
       .prop "wheels".toList true]
    ∃ fs i c', dataclass (propertyWizard Quirks.clean ms) = .ok fs
      ∧ fs.map (·.name) = ["wheels".toList]
      ∧ construct (propertyWizard Quirks.clean ms) fs [] 0 = .ok (i, c')
      ∧ i.log = [("wheels".toList, .lit (.int 4))] := by
  refine ⟨[{ name := "wheels".toList, dflt := .value .propObj, init := true }],
          { log := [("wheels".toList, .lit (.int 4))], store := [("wheels".toList, .lit (.int 4))] }, 0,
          by rfl, by rfl, by rfl, rfl⟩

/-- a dict subclass annotation (DefaultDict[str, int]) gives each instance its own object -/
theorem C16_defaultdict_fresh_example :
    defaultFromTy (.generic .defaultdict true) = { dflt := none, factory := some (.atom .defaultdict) } := by decide

/-! ## the default implied by an annotation depends on the ORDER of its members

Python's typing objects compare equal across member order (`Union[int, str] == Union[str, int] == (str | int)`,
`Literal['r', 'w'] == Literal['w', 'r']`); the implied default does not: it is read off the first member / first value of
the very annotation the class wrote.  (The correspondence stream "histories of equal-comparing annotations" checks the
implementation against exactly this, for several classes declared in one process.) -/

/-- a Union without None: the default implied is that of its FIRST member, whatever follows -/
theorem C16_union_default_is_first_member (a : Ty) (rest : List Ty) (h : (a :: rest).any Ty.isNoneT = false) :
    defaultFromTy (.union (a :: rest)) = fromType a := by
  simp only [defaultFromTy, h, Bool.false_eq_true, if_false]

/-- a Union with None among its members (every spelling of Optional, None in any position): no default value, the setter
receives None — in particular for every order of the members (the permutation `args'` of `args` only says that the position
of None does not matter) -/
theorem C16_optional_default_none (args args' : List Ty) (hp : args.Perm args') (h : args.any Ty.isNoneT = true) :
    defaultFromTy (.union args') = {} := by
  simp only [defaultFromTy, ← hp.any_eq, h, if_true]

/-- a Literal: the default implied is its FIRST value, whatever follows -/
theorem C16_literal_default_is_first_value (v : Lit) (vs : List Lit) :
    defaultFromTy (.literal (v :: vs)) = { dflt := some (.lit v) } := by
  simp only [defaultFromTy]

/-- the same members in another order imply ANOTHER default: an implementation may not identify the two annotations
(as Python's `==` / `hash` on typing objects do) when it works out the default; the last conjunct is about equal-comparing
VALUES instead: `0 == False` in Python, but `Literal[0, 'r']` and `Literal[False, 'r']` imply different defaults -/
theorem C16_member_order_matters_example :
    defaultFromTy (.union [.atom .int, .atom .str]) = { dflt := some (.zero .int) }
    ∧ defaultFromTy (.union [.atom .str, .atom .int]) = { dflt := some (.zero .str) }
    ∧ defaultFromTy (.literal [.str "r".toList, .str "w".toList]) = { dflt := some (.lit (.str "r".toList)) }
    ∧ defaultFromTy (.literal [.str "w".toList, .str "r".toList]) = { dflt := some (.lit (.str "w".toList)) }
    ∧ defaultFromTy (.literal [.int 0, .str "r".toList]) ≠ defaultFromTy (.literal [.bool false, .str "r".toList]) := by
  decide +kernel

/-- the default implied for a field is a function of what the class's own annotations say about that field — of nothing
else (no other field, no other class, nothing that happened before) -/
theorem C16_implied_default_own_annotation (anns anns' : List (Name × Ty)) (n : Name) (h : get n anns = get n anns') :
    defaultFromAnnotation anns n = defaultFromAnnotation anns' n := by
  simp only [defaultFromAnnotation, h]

/-- The public partner of the underscored name `_n` is `n` itself whenever `n` does not start with an underscore —
whatever `n` ends with: `_id_` is paired with `id_`, `_type_` with `type_` (PEP 8 spells a name that clashes with a
keyword or builtin with a trailing underscore). -/
theorem C16_public_name_keeps_suffix (n : Name) (h : isUnder n = false) : lstrip ('_' :: n) = n :=
  lstrip_under_of_not_under n h

/-- underscored property `_id_` over the public field `id_: int = 3`: one constructor parameter `id_`, the setter
receives the declared default 3 -/
theorem C16_trailing_underscore_example :
    let ms : List Member :=
      [.annAssign "id_".toList (.atom .int) (.lit (.int 3)),
       .prop "_id_".toList true]
    ∃ fs i c', dataclass (propertyWizard Quirks.clean ms) = .ok fs
      ∧ fs.map (·.name) = ["id_".toList]
      ∧ construct (propertyWizard Quirks.clean ms) fs [] 0 = .ok (i, c')
      ∧ i.log = [("id_".toList, .lit (.int 3))] := by
  refine ⟨[{ name := "id_".toList, dflt := .value .propObj, init := true }],
          { log := [("id_".toList, .lit (.int 3))], store := [("id_".toList, .lit (.int 3))] }, 0,
          by rfl, by rfl, by rfl, rfl⟩

end DW.Props.C16
