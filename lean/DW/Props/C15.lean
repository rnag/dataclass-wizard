/-
C15 — generated code is well-formed for every class; spelling never changes behaviour.

Quoting (`repr` reads back as the same text), the naming schemes of the v1 generator, and, for four generators modelled as the
text they write (the dump function, the default-engine load function, EnvWizard's `__init__`, the skeleton of the v1 load
function; each compared byte for byte with the library's output on every run), that the body written for every class is well
scoped.  About the functions the library generated for the battery there is only a statement over the regenerated table
(`C15_battery_well_scoped`); that renaming never changes behaviour, for every class and all of its generated functions, is only
sampled, by the harness's renaming oracle (DESIGN.md 9.2, row C15).
-/
import DW.Lemmas.Names
import DW.Lemmas.GenDumpPy
import DW.Lemmas.GenEnv
import DW.Lemmas.GenLoadV1
import DW.Generated.Tables

namespace DW.Props.C15
open DW DW.Names

/-- **C15 (quoting).** `repr` then the Python lexer is the identity on every string (for any `isprintable`). -/
theorem C15_repr_roundtrip (printable : Char → Bool) (s : S) : pyUnquote (pyRepr printable s) = some s :=
  repr_roundtrip printable s

/-- … including the adversarial ones of the property text -/
theorem C15_repr_examples :
    pyRepr (fun _ => true) "it's".toList = "\"it's\"".toList ∧
    pyRepr (fun _ => true) "a\"b'c".toList = "'a\"b\\'c'".toList ∧
    pyRepr (fun _ => true) "C:\\new\\tag".toList = "'C:\\\\new\\\\tag'".toList ∧
    pyRepr (fun _ => true) "new\nline{o}".toList = "'new\\nline{o}'".toList ∧
    pyRepr (fun _ => false) "\x00\x7fé".toList = "'\\x00\\x7f\\xe9'".toList := by
  -- here and below the literals are rewritten first, for the reason given at `Names.map_ofList_eq`
  repeat rw [String.toList_ofList]
  decide

def lastIsDigit (s : S) : Bool :=
  match s.getLast? with
  | some c => isDigit c
  | none => false

theorem lastIsDigit_append_dec (pre : S) (n : Nat) : lastIsDigit (pre ++ dec n) = true := by
  obtain ⟨hne, hall, _⟩ := dec_spec n
  rw [lastIsDigit, last_append pre (dec n) _ (List.getLast?_eq_some_getLast hne)]
  exact hall _ (List.getLast_mem hne)

/-- every closure name of a user type ends in a digit -/
theorem C15_type_local_indexed (name : S) (i n : Nat) :
    lastIsDigit (typeLocal name i) = true ∧ lastIsDigit (typeLocalN name i n) = true :=
  ⟨by simpa [typeLocal] using lastIsDigit_append_dec (name ++ ['_']) i,
    by simpa [typeLocalN] using lastIsDigit_append_dec (typeLocal name i ++ ['_']) n⟩

theorem getLast_isoHelper (tn : S) : (isoHelper tn).getLast? = some 't' := by
  rw [isoHelper, String.toList_ofList]
  exact last_append ('_' :: '_' :: tn) _ 't' rfl

theorem getLast_tsHelper (tn : S) : (tsHelper tn).getLast? = some 'p' := by
  rw [tsHelper, String.toList_ofList]
  exact last_append ('_' :: '_' :: tn) _ 'p' rfl

theorem getLast_fromDictHelper (c : S) : (fromDictHelper c).getLast? = some '_' :=
  last_append _ _ '_' rfl

/-- **C15 (field variables).** The local that holds a field's value in a generated v1 `from_dict` differs from every
helper the function closes over and from every type local, whatever the field, type and class are called. -/
theorem C15_field_var_fresh (name tn cls tname : S) (i n : Nat) :
    fieldVar name ≠ isoHelper tn ∧ fieldVar name ≠ tsHelper tn ∧ fieldVar name ≠ fromDictHelper cls ∧
    fieldVar name ≠ asDatetimeHelper ∧ fieldVar name ≠ tzHelper ∧
    fieldVar name ≠ typeLocal tname i ∧ fieldVar name ≠ typeLocalN tname i n := by
  have hdig : ∀ s : S, lastIsDigit s = true → s.getLast? ≠ some 'v' := by
    intro s hs e
    rw [lastIsDigit, e] at hs
    exact absurd hs (by decide)
  refine ⟨?_, ?_, ?_, ?_, ?_, ?_, ?_⟩ <;> apply fieldVar_ne_of_getLast
  · rw [getLast_isoHelper]; decide
  · rw [getLast_tsHelper]; decide
  · rw [getLast_fromDictHelper]; decide
  · decide
  · decide
  · exact hdig _ (C15_type_local_indexed tname i n).1
  · exact hdig _ (C15_type_local_indexed tname i n).2

theorem C15_field_var_injective (a b : S) (h : fieldVar a = fieldVar b) : a = b :=
  fieldVar_inj a b h

/-- `__<..>__v`: the shape of a field variable -/
def fieldVarShaped (s : S) : Bool := "__".toList.isPrefixOf s && "__v".toList.isSuffixOf s

/-- both facts about the regenerated table of internal names, by one kernel evaluation: the kernel decodes each name's literal
once instead of once per fact -/
theorem fixedNames_table :
    DW.Generated.genFixedNames.all (fun r => !fieldVarShaped r.toList) = true ∧
    (DW.Generated.genFixedNames.filter (fun r => endsIndexed r.toList)).all
      (fun r => "_skip_".isPrefixOf r || "_default_".isPrefixOf r || "fields_".isPrefixOf r || "typed_fields_".isPrefixOf r ||
        "_skip_if_".isPrefixOf r) = true := by
  decide +kernel

/-- **C15 (generator-internal names, regenerated from the generated code).** None of the names the generators bind
themselves has the shape of a field variable. -/
theorem C15_fixed_names_not_field_vars :
    DW.Generated.genFixedNames.all (fun r => !fieldVarShaped r.toList) = true :=
  fixedNames_table.1

/-- … and none of them — apart from the library's own indexed families, which are checked for freshness at generation
time — ends in `_<digits>` like a type local. -/
theorem C15_fixed_names_indexed_families :
    (DW.Generated.genFixedNames.filter (fun r => endsIndexed r.toList)).all
      (fun r => "_skip_".isPrefixOf r || "_default_".isPrefixOf r || "fields_".isPrefixOf r || "typed_fields_".isPrefixOf r ||
        "_skip_if_".isPrefixOf r) = true :=
  fixedNames_table.2

/-- a type local is never one of the non-indexed internal names -/
theorem C15_type_local_fresh (name : S) (i : Nat) (r : S) (h : lastIsDigit r = false) : typeLocal name i ≠ r := by
  intro e
  rw [← e, (C15_type_local_indexed name i 0).1] at h
  exact Bool.noConfusion h

/-- **C15 (battery).** Every function the library generated for the battery compiles and is well scoped. -/
theorem C15_battery_well_scoped :
    DW.Generated.genScopeRows.all (fun r => r.2 == "ok") = true := by
  decide +kernel

/-- the shapes of user-derived names are exactly the modelled families -/
theorem C15_derived_shapes :
    DW.Generated.genDerivedShapes =
      ["<U>_<i>", "<u>", "__<U>_<i>_fromisoformat", "__<U>_<i>_fromtimestamp", "__<u>__v",
       "__dataclass_wizard_from_dict_<U>__", "_default_<u>", "_dflt_<u>", "_load_<U>_literal_<i>_<i>",
       "_load_<U>_named_tuple_<U>", "_load_<U>_pattern_date_<hash>", "_load_<U>_pattern_datetime_<hash>",
       "_load_<U>_pattern_time_<hash>", "_load_<U>_typed_dict_<U>", "_load_<U>_union_<i>_<i>", "_parser_<u>", "_tp_<u>"] := by
  rfl

open DW.GenDump in
/-- **C15 (the dump-function generator, every class).**  Whatever the class looks like — any number of fields in any
order, with or without defaults, dumped under any key text, at any JSON path, not at all, or as the catch-all; any
per-field / Meta skip conditions with any comparison values; any tag and tag-key text; `_pre_dict`; any `isprintable` —
the body `dump_func_for_dataclass` writes for `cls_asdict` passes Python's scoping rule: every name it reads is a
parameter or a local that is definitely assigned on every path before the read, or is held by the function's closure
(the generator's `_locals`), or is the builtin `Ellipsis`; and no name it reads from the closure or the builtins is also a
local of the function. -/
theorem C15_gendump_well_scoped (printable : Char → Bool) (g : GIn) : wellScoped printable g = true :=
  wellScoped_all printable g

open DW.GenDump in
/-- … and under Python's rule taken literally (a name assigned anywhere in the body is local: reading it before it is definitely
assigned is an UnboundLocalError even when the closure holds the same name; any other name must come from the closure or the
builtins): the checker `checkL2sPy` accepts the body generated for every class. -/
theorem C15_gendump_well_scoped_py (printable : Char → Bool) (g : GIn) : wellScopedPy printable g = true :=
  wellScopedPy_all printable g

open DW.GenDump in
/-- the checker's reading rule is Python's whenever only assigned names are local — which `genScope` guarantees by
construction (its locals are the parameters and every name the body writes) -/
theorem C15_gendump_rule_is_pythons (sc : Scope) (asg : List S) (n : S) (h : ∀ x ∈ asg, x ∈ sc.locals) :
    sc.readOk asg n = sc.readOkPy asg n := readOk_eq_py sc asg n h

open DW.GenDump in
/-- the class that exposed the defect: a defaulted CatchAll field under `Meta.skip_defaults_if` -/
def gendumpWitness : GIn :=
  { fields := [{ name := "x".toList, hasDefault := true, key := .key "x".toList },
               { name := "extra".toList, hasDefault := true, key := .null, isCatchAll := true }],
    skipDefaultsIf := some { op := .is_, val := .none } }

open DW.GenDump in
/-- **The proof found a defect.**  With the closure rule of the library before repair b9cb15d (`_default_<i>` bound only
when there is no `Meta.skip_defaults_if`) the function generated for the witness reads `_default_1` without binding it
(every `to_dict()` raised NameError — replayed on the implementation by `findings/catchall-default-unbound-under-skip-defaults-if.py`);
with the repaired rule it is well scoped. -/
theorem C15_gendump_old_rule_unbound :
    wellScopedQ (fun _ => true) false gendumpWitness = false ∧ wellScopedQ (fun _ => true) true gendumpWitness = true :=
  ⟨by decide +kernel, wellScoped_all (fun _ => true) gendumpWitness⟩

open DW.GenDump in
/-- non-vacuity: the text the model writes for the witness (what the library writes, see the correspondence) -/
example : genCode (fun _ => true) gendumpWitness =
    ("  result = []\n  if exclude is None:\n    _skip_0=_skip_1=False\n  else:\n    _skip_0='x' in exclude;_skip_1='extra' in exclude\n" ++
     "  if skip_defaults:\n    _skip_0 = _skip_0 or o.x is None\n    _skip_1 = _skip_1 or o.extra is None\n" ++
     "  if not _skip_0:\n    result.append(('x',asdict(o.x,dict_factory,hooks,config,cls_to_asdict)))\n" ++
     "  if o.extra != _default_1 and not _skip_1:\n    for k, v in o.extra.items():\n" ++
     "      result.append((k,asdict(v,dict_factory,hooks,config,cls_to_asdict)))\n  return dict_factory(result)").toList := by
  simp only [String.toList_append]
  rw [String.toList_ofList, String.toList_ofList, String.toList_ofList, String.toList_ofList, String.toList_ofList]
  decide +kernel

open DW.GenLoad in
/-- **C15 (the load-function generator of the default engine, every class).**  Whatever the class looks like — `_pre_from_dict` or
not, a CatchAll field with or without default, `raise_on_unknown_json_key`, any number of fields with JSON paths (required,
defaulted or with a default_factory; any path parts; any field names, including the template's own variable names), every
constructor field having a path or not, a tag key or a path's top-level key kept out of the catch-all — the body
`load_func_for_dataclass` writes for `cls_fromdict` (`DW/Model/GenLoad.lean`, compared byte for byte with the library's output, its
declared names with Python's `ast`, on every run) is well scoped on every control-flow path through its `if / elif / else`, `for`
and `try / except` blocks: every name it reads is the parameter, a local definitely bound before (the `e` of an `except … as e`
and the `field` bound by a literal assignment at the head of a `try` body included), a name of the closure the generator fills
(`_default_<field>` among them), a global it is executed with, or a builtin — and no name it reads from there is also a local. -/
theorem C15_genload_well_scoped (printable : Char → Bool) (g : LIn) : wellScoped printable g = true :=
  wellScoped_all printable g

open DW.GenLoad in
/-- … and under Python's rule taken literally (`checkListPy`: a name bound anywhere in the body is local and must be definitely
assigned, whatever the closure holds) -/
theorem C15_genload_well_scoped_py (printable : Char → Bool) (g : LIn) : wellScopedPy printable g = true :=
  wellScopedPy_all printable g

open DW.GenLoad in
/-- non-vacuity: the text the model writes for a class with a required path field, a CatchAll field and
`raise_on_unknown_json_key` (first lines) -/
example : ((renderList 1 (genBody (fun _ => true)
      { catchAll := some ("rest".toList, false), raiseOnUnknown := true,
        paths := [{ field := "r".toList, path := [.str "k".toList] }], knownKeys := true })).take 6).map String.ofList =
    ["  init_kwargs = {}", "  catch_all = {}", "  try:",
     "    field='r'; init_kwargs[field] = field_to_parser[field](safe_get(o, ('k',)))",
     "  except ParseError as e:",
     "    e.class_name, e.field_name, e.json_object, e.fields = cls, field, o, cls_fields"] := by
  apply map_ofList_eq
  simp only [List.map_cons, List.map_nil]
  repeat rw [String.toList_ofList]
  decide +kernel

open DW.GenEnv in
/-- **C15 (the constructor generator of EnvWizard, every class).**  Whatever the class looks like — `Meta.env_file` set or not,
`Meta.secrets_dir` set or not, any `env_prefix`, any number of fields (required, defaulted or with a default_factory; no explicit
variable name, one, a tuple or a list of names; any field names, **including every name the template uses itself** — a field is a
keyword parameter of the generated function and so bound from the start) — the body `EnvWizard._create_methods` writes for `__init__`
(`DW/Model/GenEnv.lean`, compared byte for byte with the library's output — parameter list, body, `dict`, closure keys, globals —
and its declared names with Python's `ast`, on every run) is well scoped on every control-flow path: every name it reads is a
parameter, a local definitely bound before (`_name` / `_env_var` bound by the literal assignments at the head of the `try` body and
the `e` of `except ParseError as e` included), a name of the closure or a global the generator fills (`_tp_<f>`, `_parser_<f>`,
`_dflt_<f>`, `_dotenv_values` among them).  No builtin is needed. -/
theorem C15_geninit_well_scoped (printable : Char → Bool) (g : EIn) : wellScoped printable g = true :=
  wellScoped_all printable g

open DW.GenEnv in
/-- … and under Python's rule taken literally -/
theorem C15_geninit_well_scoped_py (printable : Char → Bool) (g : EIn) : wellScopedPy printable g = true :=
  wellScopedPy_all printable g

open DW.GenEnv in
/-- the defaults and annotations of the parameter list (`_secrets_dir=_secrets_dir_value`, `<f>:_tp_<f>=MISSING`) are evaluated when
the function is defined: each of those names is a closure key or a global of the generated function -/
theorem C15_geninit_defaults_bound (g : EIn) : defsBound g = true :=
  defsBound_all g

open DW.GenEnv in
/-- the variable name(s) a field is read from enter the text as Python literals only (`repr`), which read back as the same text
(`C15_repr_roundtrip`): no character of the name is ever part of the code.  (Before the repair 6eb73c4 a single name was pasted
into an f-string literal — KNOWN_FINDINGS env-var-name-pasted-into-fstring.) -/
theorem C15_geninit_name_is_literal (printable : Char → Bool) (fname n : S) (d : DW.GenLoad.DefaultKind) :
    prefixed printable { name := fname, var := .one n, dflt := d } = "f\"{_env_prefix}\" + ".toList ++ pyRepr printable n ∧
    varNameRepr printable { name := fname, var := .one n, dflt := d } = pyRepr printable n ∧
    pyUnquote (pyRepr printable n) = some n :=
  ⟨rfl, rfl, C15_repr_roundtrip printable n⟩

open DW.GenEnv DW.GenLoad in
/-- non-vacuity: the text the model writes for a class whose fields are called like the template's own variables, one of them read
from a variable whose name holds a quote and braces; and the checker is not trivially true — without the `_vars = []` line the
same body reads an unbound name -/
example :
    let g : EIn := { envPrefix := some "P_".toList, fields := [{ name := "_name".toList, var := .one "A\"{x}".toList },
                                                              { name := "cls".toList, dflt := .value }] }
    ((renderList 1 (genBody (fun _ => true) g)).drop 10).take 5 |>.map String.ofList =
      ["    _name='_name'; _env_var='A\"{x}'; _var_name=f\"{_env_prefix}\" + 'A\"{x}' if _env_prefix else 'A\"{x}'",
       "    if _name is not MISSING or (_name := lookup_exact(_var_name)) is not MISSING:",
       "      self._name = _parser__name(_name)",
       "    else:",
       "      add(_vars, _name, _env_prefix, _env_var, _tp__name)"] := by
  apply map_ofList_eq
  simp only [List.map_cons, List.map_nil]
  repeat rw [String.toList_ofList]
  decide +kernel

open DW.GenEnv DW.GenLoad in
example :
    let g : EIn := { fields := [{ name := "x".toList }] }
    (checkList (genScope (fun _ => true) g) (params g) (genBody (fun _ => true) g)).isSome = true ∧
    (checkList (genScope (fun _ => true) g) (params g) ((headStmts g).dropLast ++ (fieldBlock (fun _ => true) g ++ GenEnv.tailStmts))).isSome = false := by
  decide +kernel

open DW.GenLoadV1 in
/-- **C15 (the v1 load-function generator, every class; skeleton).**  `DW/Model/GenLoadV1.lean` writes the body of
`__dataclass_wizard_from_dict_<Class>__` around the per-field value expressions (compared byte for byte with the library's output on
every run): `_pre_from_dict`, `init_kwargs`, the key counter, the `try` block with lookup / condition / assignment per constructor
field (one key, several keys, one path, several paths; any names, keys and path parts), the tag-key line, the handler, the catch-all
entry or the unknown-key block, the constructor call.  For every such class, under Python's scoping rule (a name bound anywhere in
the body is local): if the outside names the skeleton itself uses are held outside and bound nowhere in the body (`OuterOk`), every
value expression reads only `v1` and outside names (`ExprsOk`), and no chain of alternative keys / paths is empty (`LookupsOk`), then
no path through the function reads an unbound name — except, by design, the constructor call, whose variables are locals of the
function, so that the only possible failure is the UnboundLocalError the template catches.  That the names the body binds are
locals of the function is not assumed: it holds by construction.  The three
hypotheses are tested on every generated function of every run: on the inputs cut out of the generated source the driver
evaluates `premisesB` (the premises of `C15_genloadv1_well_scoped_inputs`, which imply them, as a Boolean test) next to
`wellScoped`, and the verdict is compared with running the function. -/
theorem C15_genloadv1_well_scoped (printable : Char → Bool) (g : VIn) (outer : List S) (hk : LookupsOk g)
    (ho : OuterOk (genScope printable g outer) g) (he : ExprsOk (genScope printable g outer) g) :
    wellScoped printable g outer = true :=
  wellScoped_all printable g outer hk ho he

open DW.GenLoadV1 in
/-- the same in any scope whose locals contain what the body binds -/
theorem C15_genloadv1_well_scoped_in (printable : Char → Bool) (sc : DW.GenLoad.Scope) (g : VIn) (hl : LocalsOk sc g)
    (ho : OuterOk sc g) (he : ExprsOk sc g) (hk : LookupsOk g) :
    (checkL2 sc ["o".toList] (genBody printable g)).isSome = true :=
  wellScoped_in printable sc g hl ho he hk

open DW.GenLoadV1 in
/-- the variables handed to the constructor are locals: reading an unbound one raises the UnboundLocalError the template catches,
never a NameError -/
theorem C15_genloadv1_ctor_vars_local (printable : Char → Bool) (g : VIn) (outer : List S) (hk : LookupsOk g) :
    ∀ v ∈ ctorVars g, v ∈ (genScope printable g outer).locals :=
  ctorVars_local _ g (localsOk_genScope printable g outer hk)

open DW.GenLoadV1 DW.GenDump in
/-- non-vacuity: a class with a required field read from two alternative keys, a defaulted field at a path and a required CatchAll
field (so that keys are counted) without `v1_on_unknown_key`; the text, and the checker's verdict with the right and with a deficient outside (no `safe_get`) -/
example :
    let g : VIn := { catchAll := .required "rest".toList 1,
                     fields := [{ name := "a".toList, lookup := .anyOf [.lit "A".toList, .lit "it's".toList], expr := "int(v1)".toList,
                                  exprReads := ["v1".toList, "int".toList] },
                                { name := "b".toList, hasDefault := true, lookup := .pathAssign [.str "x".toList, .int 0],
                                  expr := "v1".toList, exprReads := ["v1".toList] }] }
    let outer : List S := ["cls", "fields", "MISSING", "re_raise", "raise_missing_fields", "locals", "Exception", "aliases", "len",
                            "safe_get", "int"].map String.toList
    ((genBody (fun _ => true) g).flatMap (S2.render 1)).map String.ofList =
      ["  init_kwargs = {}", "  i = 0", "  try:", "    field='a'",
       "    if ((v1 := o.get('A', MISSING)) is not MISSING\n     or (v1 := o.get(\"it's\", MISSING)) is not MISSING):",
       "      i+=1; __a__v = int(v1)", "    field='b'; v1=safe_get(o, ['x', 0], False)", "    if v1 is not MISSING:",
       "      i+=1; init_kwargs[field] = v1", "  except Exception as e:",
       "    re_raise(e, cls, o, fields, field, locals().get('v1'))",
       "  __rest__v = {} if len(o) == i else {k: o[k] for k in o if k not in aliases}", "  try:",
       "    return cls(__a__v, __rest__v, **init_kwargs)", "  except UnboundLocalError:",
       "    raise_missing_fields(locals(), o, cls, fields)"] ∧
    wellScoped (fun _ => true) g outer = true ∧
    wellScoped (fun _ => true) g (outer.filter (· != "safe_get".toList)) = false := by
  intro g outer
  refine ⟨map_ofList_eq ?_, by decide +kernel⟩
  simp only [List.map_cons, List.map_nil]
  repeat rw [String.toList_ofList]
  decide +kernel

open DW.GenLoadV1 DW.GenDump in
/-- … and the premises of the theorem are met by that class in that scope -/
example :
    let g : VIn := { catchAll := .required "rest".toList 1,
                     fields := [{ name := "a".toList, lookup := .anyOf [.lit "A".toList, .lit "it's".toList], expr := "int(v1)".toList,
                                  exprReads := ["v1".toList, "int".toList] },
                                { name := "b".toList, hasDefault := true, lookup := .pathAssign [.str "x".toList, .int 0],
                                  expr := "v1".toList, exprReads := ["v1".toList] }] }
    let outer : List S := ["cls", "fields", "MISSING", "re_raise", "raise_missing_fields", "locals", "Exception", "aliases", "len",
                            "safe_get", "int"].map String.toList
    LookupsOk g ∧ OuterOk (genScope (fun _ => true) g outer) g ∧ ExprsOk (genScope (fun _ => true) g outer) g := by
  refine ⟨?_, ?_, ?_⟩
  · unfold LookupsOk; decide +kernel
  · unfold OuterOk; decide +kernel
  · unfold ExprsOk; decide +kernel

open DW.GenLoadV1 in
/-- **C15 (v1 skeleton, premises about the generator's inputs only).**  For every class: if (1) no chain of alternative keys / paths
is empty, (2) the outside names the skeleton uses are in the closure, the globals or the builtins, (3) no value expression binds one
of the fourteen outside names the skeleton can use, and (4) whatever a value expression reads besides `v1` is held outside and is
not a name the body can bind (one of its seven fixed locals, a field variable `__<f>__v`, a name some value expression binds), then
the generated function is well scoped under Python's rule.  That the skeleton's outside names never collide with what the body binds
is proved, not assumed. -/
theorem C15_genloadv1_well_scoped_inputs (printable : Char → Bool) (g : VIn) (outer : List S) (hk : LookupsOk g)
    (h1 : ∀ n ∈ skeletonOuter g, n ∈ outer)
    (h2 : ∀ f ∈ g.fields, ∀ n, (n ∈ f.exprWrites ∨ n ∈ f.exprBinds) → n ∉ allOuter)
    (h3 : ∀ f ∈ g.fields, ∀ n ∈ f.exprReads, n = "v1".toList ∨ (n ∈ outer ∧ ¬ Bindable g n)) :
    wellScoped printable g outer = true :=
  wellScoped_inputs printable g outer hk h1 h2 h3

open DW.GenLoadV1 in
/-- what the driver evaluates on the inputs of every generated function of every run (`premisesB`: the premises of
`C15_genloadv1_well_scoped_inputs` as a Boolean test; a name shaped `__…__v` counts as a possible field variable): when it passes,
the function is well scoped.  The correspondence stream reports every generated function on which it does not pass. -/
theorem C15_genloadv1_premises_sound (printable : Char → Bool) (g : VIn) (outer : List S) (h : premisesB g outer = true) :
    wellScoped printable g outer = true :=
  premisesB_sound printable g outer h

open DW.GenLoadV1 in
/-- **C15 (v1 skeleton, spelling).**  Whatever a field is called — the template's own variable names, its outside names, Python
builtins included — its variable `__<f>__v` is none of the seven locals the template binds itself and none of the fourteen outside
names it reads; distinct fields get distinct variables; so the variables handed to the constructor are pairwise distinct (a required
CatchAll field's variable included) and every required field is among them.  Renaming the fields of a class consistently therefore
cannot make two of them, or one of them and the template, share a name in the generated function. -/
theorem C15_genloadv1_field_vars_fresh (g : VIn) (m : S) :
    (fieldVar m ∉ fixedLocals ∧ fieldVar m ∉ allOuter) ∧
    ((g.fields.map (·.name)).Nodup → (∀ n idx, g.catchAll = .required n idx → n ∉ g.fields.map (·.name)) → (ctorVars g).Nodup) ∧
    (∀ f ∈ g.fields, f.hasDefault = false → fieldVar f.name ∈ ctorVars g) :=
  ⟨fieldVar_fresh m, ctorVars_nodup g, fun f hf hd => ctorVars_complete g f hf hd⟩

open DW.GenLoadV1 in
/-- **C15 (v1 skeleton, quoting).**  Every piece of user text the skeleton writes into the source — the field name in `field=…`,
each alias in `o.get(…, MISSING)`, the tag key in `… in o`, the name of a defaulted CatchAll field — goes through `repr` (and reads
back as the same text, `C15_repr_roundtrip`); the only other use of a field name is inside the identifier `__<f>__v`.  So quotes,
backslashes, braces or newlines in aliases and tag keys cannot end a literal or open an expression in the generated function (the
byte-for-byte correspondence runs over exactly such texts). -/
theorem C15_genloadv1_text_is_literal (printable : Char → Bool) (f : VField) (k n : S) (g : VIn) (hg : g.tagKey = some k)
    (hp : g.preAssign = true) :
    (fieldLit printable f).text = "field=".toList ++ pyRepr printable f.name ∧
    (getPart printable (.lit k)).text = "v1=o.get(".toList ++ pyRepr printable k ++ ", MISSING)".toList ∧
    getCond printable (.lit k) = "(v1 := o.get(".toList ++ pyRepr printable k ++ ", MISSING)) is not MISSING".toList ∧
    (catchDfltPart printable n).text = "init_kwargs[".toList ++ pyRepr printable n ++ "] = ".toList ++ catchAllDef ∧
    (∃ rest, tagStmts printable g = S1.s0 (.line [fieldNone]) :: S1.ifc (pyRepr printable k ++ " in o".toList) ["o".toList] [] [] [.line [incPart]] :: rest) ∧
    pyUnquote (pyRepr printable k) = some k := by
  refine ⟨rfl, rfl, rfl, rfl, ⟨[], ?_⟩, C15_repr_roundtrip printable k⟩
  simp [tagStmts, hg, hp, DW.GenLoad.t]

open DW.GenLoadV1 DW.GenDump in
/-- non-vacuity of `C15_genloadv1_premises_sound`: the test passes on the class of the examples above (its fields here called `cls`,
an outside name of the template, and `v1`, one of its variables), and fails when a value expression binds one of the skeleton's
outside names -/
example :
    let mk (binds : List S) : VIn :=
      { catchAll := .required "rest".toList 1,
        fields := [{ name := "cls".toList, lookup := .anyOf [.lit "A".toList, .lit "it's".toList], expr := "int(v1)".toList,
                     exprReads := ["v1".toList, "int".toList], exprBinds := binds },
                   { name := "v1".toList, hasDefault := true, lookup := .pathAssign [.str "x".toList, .int 0],
                     expr := "v1".toList, exprReads := ["v1".toList] }] }
    let outer : List S := ["cls", "fields", "MISSING", "re_raise", "raise_missing_fields", "locals", "Exception", "aliases", "len",
                            "safe_get", "int"].map String.toList
    premisesB (mk []) outer = true ∧ premisesB (mk ["tp".toList]) outer = true ∧ premisesB (mk ["len".toList]) outer = false := by
  decide +kernel

open DW.GenLoad in
/-- **C15 (default-engine load generator, quoting).**  The two places where `load_func_for_dataclass` writes user text into the
source — the field name of a path line and the name of the CatchAll field — go through `repr`, which reads back
(`C15_repr_roundtrip`); path parts are literals inside a tuple display. -/
theorem C15_genload_text_is_literal (printable : Char → Bool) (l : PathLine) (f : S) (g : LIn) (hc : g.catchAll = some (f, false)) :
    (∃ parts, pathStmt printable l = Stmt.line parts ∧
      (parts.map (·.text)).head? = some ("field=".toList ++ pyRepr printable l.field)) ∧
    (∃ pre post q, tailStmts printable g = pre ++ Stmt.line [q] :: post ∧
      q.text = "init_kwargs[".toList ++ pyRepr printable f ++ "] = catch_all".toList) ∧
    pyUnquote (pyRepr printable l.field) = some l.field := by
  refine ⟨⟨_, rfl, rfl⟩, ?_, C15_repr_roundtrip printable l.field⟩
  refine ⟨if g.loopOverO then [loopBlock g] else [], ?post,
    Part.mk ("init_kwargs[".toList ++ pyRepr printable f ++ "] = catch_all".toList) ["catch_all".toList, "init_kwargs".toList] [] false,
    ?h, rfl⟩
  case h =>
    unfold tailStmts
    simp only [hc, List.append_assoc, List.singleton_append]
    rfl

end DW.Props.C15
