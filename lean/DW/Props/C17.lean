/-
C17 — patterned dates/times parse their pattern, accept ISO and survive their dump.

`std : PatStd` is arbitrary: the stdlib primitives are parameters, and the two stdlib laws the dump/reload theorems need
are explicit hypotheses (`IsoRT`, `IsoRTV1`); the witnesses run on the concrete `noStd` / `oneStd` defined beside them.
Default engine = `patternTransform` (`PatternedDT.get_transform_func`), v1 = `loadToPattern` (the function generated by
`PatternBase.load_to_pattern`), class level = `pLoadField`.
-/
import DW.Model.C17
import DW.Lemmas.C17

namespace DW.Props.C17
open DW DW.C17

/-- A text that is not ISO-8601 for the target type and that `strptime` reads with the declared pattern loads to
that reading, converted the documented way (`dt`, `dt.date()`, `dt.time()`, or the subclass built from its fields) -/
theorem C17_pattern_value (std : PatStd) (q : PQuirks) (k : Kind) (sub : Bool) (p s : S) (dt : DT)
    (hiso : isoD std k sub s = none) (hp : std.strptime p s = some dt) :
    patternTransform std q k sub p (.str s) = .ok (.dv (convD k sub dt)) := by
  rw [patternTransform_str, hiso, hp, Option.map_some, firstOf_none_left]

/-- Documented precedence: when the text also happens to be valid ISO-8601 for the target type, the ISO reading is
returned whatever the pattern would have made of it (every target except a `time` whose pattern holds `-`/`+`) -/
theorem C17_iso_precedence (std : PatStd) (q : PQuirks) (k : Kind) (sub : Bool) (p s : S) (v : DV)
    (hd : dashTime k p = false) (hiso : isoD std k sub s = some v) :
    patternTransform std q k sub p (.str s) = .ok (.dv v) := by
  rw [patternTransform_str, hd, hiso, firstOf_false_some]

/-- the special case: a `time` target whose pattern holds `-` or `+` tries the pattern first -/
theorem C17_dash_time_pattern_first (std : PatStd) (q : PQuirks) (k : Kind) (sub : Bool) (p s : S) (dt : DT)
    (hd : dashTime k p = true) (hp : std.strptime p s = some dt) :
    patternTransform std q k sub p (.str s) = .ok (.dv (convD k sub dt)) := by
  rw [patternTransform_str, hd, hp, Option.map_some, firstOf_true_some]

/-- An ISO-8601 text loads as for the unpatterned type (for the `-`/`+` time special case: unless the pattern reads it too) -/
theorem C17_iso (std : PatStd) (q : PQuirks) (k : Kind) (sub : Bool) (p s : S) (v : DV)
    (hiso : isoD std k sub s = some v) (hdash : dashTime k p = true → std.strptime p s = none) :
    patternTransform std q k sub p (.str s) = .ok (.dv v) ∧ plainD std k sub (.str s) = .ok (.dv v) := by
  refine ⟨?_, by simp [plainD, hiso]⟩
  cases hd : dashTime k p with
  | false => exact C17_iso_precedence std q k sub p s v hd hiso
  | true => rw [patternTransform_str, hdash hd, Option.map_none, firstOf_none_right, hiso]

/-- A text that is neither ISO-8601 nor matched by the pattern is rejected with the error that names the pattern
(implementation without the `dTimeDashSilent` deviation) -/
theorem C17_neither (std : PatStd) (q : PQuirks) (k : Kind) (sub : Bool) (p s : S)
    (hq : q.dTimeDashSilent = false)
    (hiso : isoD std k sub s = none) (hp : std.strptime p s = none) :
    patternTransform std q k sub p (.str s) = .error (.noMatch [p]) := by
  rw [patternTransform_str, hiso, hp, Option.map_none, firstOf_none_left]
  simp [dashFallthrough, hq]

/-- … and for every implementation, deviating or not, outside the `-`/`+` time special case -/
theorem C17_neither_partial (std : PatStd) (q : PQuirks) (k : Kind) (sub : Bool) (p s : S)
    (hd : dashTime k p = false)
    (hiso : isoD std k sub s = none) (hp : std.strptime p s = none) :
    patternTransform std q k sub p (.str s) = .error (.noMatch [p]) := by
  rw [patternTransform_str, hd, hiso, hp, Option.map_none, firstOf_none_left]
  rfl

/-- a stdlib under which nothing parses (for the witnesses below) -/
def noStd : PatStd :=
  { strptime := fun _ _ => none, dateFromIso := fun _ => none, timeFromIso := fun _ => none,
    datetimeFromIso := fun _ => none, dateIso := fun _ => [], timeIso := fun _ => [], datetimeIso := fun _ => [],
    dateFromTs := fun _ => .otherError, datetimeFromTs := fun _ _ => .otherError }

/-- Witness of the deviation found in the unchanged code: for `TimePattern['%H-%M']` a text matching neither is
*accepted* and loads as `None` (a subclass target dies with an AttributeError instead of the error naming the pattern) -/
theorem C17_neither_witness :
    patternTransform noStd { dTimeDashSilent := true } .time false "%H-%M".toList (.str "junk".toList) = .ok .none
    ∧ patternTransform noStd { dTimeDashSilent := true } .time true "%H-%M".toList (.str "junk".toList) = .error .attrError := by
  constructor <;> rfl

/-- The result is an instance of the annotated class (the stdlib class or the user's subclass) -/
theorem C17_class (std : PatStd) (q : PQuirks) (k : Kind) (sub : Bool) (p : S) (o : JVal) (v : DV)
    (h : patternTransform std q k sub p o = .ok (.dv v)) : v.kind = k ∧ v.isSub = sub := by
  rcases patternTransform_ok h with ha | ⟨s, dt, _, _, rfl⟩
  · exact asD_kind ha
  · exact convD_kind k sub dt

/-- The field dumps as ISO-8601 and that dump loads back to an equal value: `load (dump (load s)) = load s`, under the
stdlib law `IsoRT` at the loaded value (for the `-`/`+` time special case: provided the pattern does not read the ISO text) -/
theorem C17_dump_reload (std : PatStd) (q : PQuirks) (k : Kind) (sub : Bool) (p : S) (o : JVal) (v : DV)
    (hload : patternTransform std q k sub p o = .ok (.dv v))
    (hlaw : IsoRT std v)
    (hdash : dashTime k p = true → std.strptime p (dumpDV std v) = none) :
    patternTransform std q k sub p (dumpPV std (.dv v)) = .ok (.dv v) := by
  obtain ⟨rfl, rfl⟩ := C17_class std q _ _ p o v hload
  exact (C17_iso std q _ _ p (dumpDV std v) v (isoD_dump std v hlaw) hdash).1

/-- several patterns are tried in order: the first one `strptime` accepts decides, whatever the later ones would give -/
theorem C17_first_pattern_wins (std : PatStd) (sp : FnSpec) (s p : S) (dt : DT) :
    ∀ (ps1 ps2 : List S), (∀ p' ∈ ps1, std.strptime p' s = none) → std.strptime p s = some dt →
      tryPatterns std sp s (ps1 ++ p :: ps2) = some (convV1 sp dt) := by
  intro ps1 ps2 h hp
  rw [tryPatterns_eq, List.findSome?_append, List.findSome?_eq_none_iff.2 h, List.findSome?_cons, hp]
  rfl

/-- v1: a text that is not ISO-8601 for the target type loads to the reading of the first declared pattern that
matches it, with the declared zone attached (`convV1`) -/
theorem C17_v1_pattern_value (std : PatStd) (sp : FnSpec) (s p : S) (dt : DT) (ps1 ps2 : List S)
    (hps : sp.patterns = ps1 ++ p :: ps2)
    (hiso : isoV1 std sp s = none)
    (hfail : ∀ p' ∈ ps1, std.strptime p' s = none) (hp : std.strptime p s = some dt) :
    loadToPattern std sp (.str s) = .ok (.dv (convV1 sp dt)) := by
  have ht : tryPatterns std sp s sp.patterns = some (convV1 sp dt) := by
    rw [hps]; exact C17_first_pattern_wins std sp s p dt ps1 ps2 hfail hp
  rw [loadToPattern_str, hiso, ht, firstOf_none_left]
  rfl

/-- v1, documented precedence: a text that is valid ISO-8601 for the target type is read as ISO (zone attached),
unless the target is a `time` and some pattern holds `-`/`+` -/
theorem C17_v1_iso_precedence (std : PatStd) (sp : FnSpec) (s : S) (r : Except PErr DV)
    (hd : dashV1 sp = false) (hiso : isoV1 std sp s = some r) :
    loadToPattern std sp (.str s) = r.map .dv := by
  rw [loadToPattern_str, hd, hiso, firstOf_false_some]

/-- v1: an ISO-8601 text loads as for the unpatterned type, with the declared zone attached -/
theorem C17_v1_iso (std : PatStd) (sp : FnSpec) (s : S) (v : DV)
    (htz : sp.k = .date → sp.tz = none)
    (hiso : isoVal std sp.k sp.sub s = some v)
    (hdash : dashV1 sp = true → ∀ p ∈ sp.patterns, std.strptime p s = none) :
    ∃ w, loadToPattern std sp (.str s) = .ok (.dv w) ∧ plainV1 std sp.k sp.sub (.str s) = .ok (.dv v) ∧
      (sp.tz = none → w = v) := by
  refine ⟨v.withTz sp.tz, ?_, by simp [plainV1, hiso], fun hn => by rw [hn, withTz_none]⟩
  exact loadToPattern_iso (isoV1_of_isoVal htz hiso) hdash

/-- v1: a text that is neither ISO-8601 nor matched by any declared pattern is rejected with the error that names
all the declared patterns -/
theorem C17_v1_neither (std : PatStd) (sp : FnSpec) (s : S)
    (hiso : isoV1 std sp s = none) (hp : ∀ p ∈ sp.patterns, std.strptime p s = none) :
    loadToPattern std sp (.str s) = .error (.noMatch sp.patterns) := by
  rw [loadToPattern_str, hiso, tryPatterns_none sp.patterns hp, firstOf_none_left]
  rfl

/-- v1: the result is an instance of the class the function was generated for -/
theorem C17_v1_class (std : PatStd) (sp : FnSpec) (s : S) (v : DV)
    (h : loadToPattern std sp (.str s) = .ok (.dv v)) : v.kind = sp.k ∧ v.isSub = sp.sub := by
  rcases loadToPattern_ok h with hi | ⟨_, _, dt, _, rfl⟩
  · obtain ⟨w, hw, rfl⟩ := isoV1_ok hi
    rw [withTz_kind, withTz_isSub]
    exact isoVal_kind hw
  · exact convV1_kind sp dt

/-- v1 Aware / UTC variants: whatever branch produced it (ISO or a pattern, `%I:%M %p` as much as `%H:%M:%S`), a
loaded `time` / `datetime` carries the declared zone -/
theorem C17_v1_tz_attached (std : PatStd) (sp : FnSpec) (s : S) (v : DV) (z : TZ)
    (htz : sp.tz = some z) (hk : sp.k ≠ .date)
    (h : loadToPattern std sp (.str s) = .ok (.dv v)) : v.tz = some z := by
  rcases loadToPattern_ok h with hi | ⟨_, _, dt, _, rfl⟩
  · obtain ⟨w, hw, rfl⟩ := isoV1_ok hi
    rw [htz]
    exact withTz_tz z (by rw [(isoVal_kind hw).1]; exact hk)
  · exact convV1_tz htz hk dt

/-- v1: `load (dump (load s)) = load s` under the stdlib law `IsoRTV1` at the loaded value (a `time` target with a
`-`/`+` pattern: provided no declared pattern reads the ISO text) -/
theorem C17_v1_dump_reload (std : PatStd) (sp : FnSpec) (s : S) (v : DV)
    (hload : loadToPattern std sp (.str s) = .ok (.dv v))
    (htz : sp.k = .date → sp.tz = none)
    (hlaw : IsoRTV1 std sp.tz v)
    (hdash : dashV1 sp = true → ∀ p ∈ sp.patterns, std.strptime p (dumpDV std v) = none) :
    loadToPattern std sp (dumpPV std (.dv v)) = .ok (.dv v) := by
  obtain ⟨hk, hs⟩ := C17_v1_class std sp s v hload
  obtain ⟨w, hw, hv⟩ := isoVal_of_isoRTV1 hlaw
  rw [hk, hs] at hw
  rw [dumpPV, loadToPattern_iso (isoV1_of_isoVal htz hw) hdash, hv]
  rfl

/-- default engine: the pattern of `Annotated[…, Pattern(..)]` is the one every date/time position below uses -/
theorem C17_annotated_leaf (std : PatStd) (q : PQuirks) (pats : List PatObj) (pid : Nat) (k : Kind) (sub : Bool) (o : JVal) :
    pLoadD std q pats (some pid) (.leaf k sub) o = patternTransform std q k sub (firstPat pats pid) o := by
  simp [pLoadD]

/-- The pattern applies element-wise inside an annotated container: if every element of a document list loads, as a bare
position of the element type under the same pattern, to `g x`, the list loads to the list of those values -/
theorem C17_elementwise (std : PatStd) (q : PQuirks) (pats : List PatObj) (ann : Option Nat) (t : PTy)
    (xs : List JVal) (g : JVal → PV)
    (h : ∀ x ∈ xs, pLoadD std q pats ann t x = .ok (g x)) :
    pLoadD std q pats ann (.list t) (.list xs) = .ok (.list (xs.map g)) := by
  simp only [pLoadD]
  rw [mapE_ok g xs h]
  rfl

/-- … position-wise in a `tuple[A, B]` (the second position is loaded exactly like the first: same pattern) -/
theorem C17_elementwise_tuple (std : PatStd) (q : PQuirks) (pats : List PatObj) (ann : Option Nat) (t1 t2 : PTy)
    (x1 x2 : JVal) (y1 y2 : PV)
    (h1 : pLoadD std q pats ann t1 x1 = .ok y1) (h2 : pLoadD std q pats ann t2 x2 = .ok y2) :
    pLoadD std q pats ann (.tuple [t1, t2]) (.list [x1, x2]) = .ok (.tuple [y1, y2]) := by
  simp [pLoadD, pLoadDTuple, h1, h2, Except.map]

/-- … and to the keys and the values of a `dict[K, V]` -/
theorem C17_elementwise_dict (std : PatStd) (q : PQuirks) (pats : List PatObj) (ann : Option Nat) (kt vt : PTy)
    (kvs : List (S × JVal)) (gk gv : JVal → PV)
    (h : ∀ kv ∈ kvs, pLoadD std q pats ann kt (.str kv.1) = .ok (gk (.str kv.1)) ∧ pLoadD std q pats ann vt kv.2 = .ok (gv kv.2)) :
    pLoadD std q pats ann (.dict kt vt) (.dict kvs) = .ok (.dict (kvs.map (fun kv => (gk (.str kv.1), gv kv.2)))) := by
  simp only [pLoadD]
  rw [mapPairsE_ok gk gv kvs h]
  rfl

/-- `Optional[T]`: `null` loads as `None`, anything else as `T` under the same pattern -/
theorem C17_elementwise_optional (std : PatStd) (q : PQuirks) (pats : List PatObj) (ann : Option Nat) (t : PTy) (s : S) :
    pLoadD std q pats ann (.optional t) .null = .ok .none ∧
    pLoadD std q pats ann (.optional t) (.str s) = pLoadD std q pats ann t (.str s) := by
  constructor <;> simp [pLoadD]

/-- v1: the same element-wise law for the generated list comprehension -/
theorem C17_v1_elementwise (std : PatStd) (q : PQuirks) (pats : List PatObj) (st : GenSt) (sticky : Option Nat) (t : PTy)
    (xs : List JVal) (g : JVal → PV)
    (h : ∀ x ∈ xs, pLoadV1 std q pats st sticky t x = .ok (g x)) :
    pLoadV1 std q pats st sticky (.list t) (.list xs) = .ok (.list (xs.map g)) := by
  simp only [pLoadV1]
  rw [mapE_ok g xs h]
  rfl

/-- v1: position-wise in a `tuple[A, B]` -/
theorem C17_v1_elementwise_tuple (std : PatStd) (q : PQuirks) (pats : List PatObj) (st : GenSt) (sticky : Option Nat)
    (t1 t2 : PTy) (x1 x2 : JVal) (y1 y2 : PV)
    (h1 : pLoadV1 std q pats st sticky t1 x1 = .ok y1) (h2 : pLoadV1 std q pats st sticky t2 x2 = .ok y2) :
    pLoadV1 std q pats st sticky (.tuple [t1, t2]) (.list [x1, x2]) = .ok (.tuple [y1, y2]) := by
  simp [pLoadV1, pLoadV1Tuple, h1, h2, Except.map]

/-- v1: keys and values of a `dict[K, V]` -/
theorem C17_v1_elementwise_dict (std : PatStd) (q : PQuirks) (pats : List PatObj) (st : GenSt) (sticky : Option Nat)
    (kt vt : PTy) (kvs : List (S × JVal)) (gk gv : JVal → PV)
    (h : ∀ kv ∈ kvs, pLoadV1 std q pats st sticky kt (.str kv.1) = .ok (gk (.str kv.1)) ∧
      pLoadV1 std q pats st sticky vt kv.2 = .ok (gv kv.2)) :
    pLoadV1 std q pats st sticky (.dict kt vt) (.dict kvs) = .ok (.dict (kvs.map (fun kv => (gk (.str kv.1), gv kv.2)))) := by
  simp only [pLoadV1]
  rw [mapPairsE_ok gk gv kvs h]
  rfl

/-- Without the three v1 deviations a patterned position runs the function for *its own* type with the patterns and zone
of the pattern object in force, in every generation state `st`: its name is the `uniq` one, which the model's `resolve`
answers directly (on the assumption stated there about `uniq` names), without consulting what was generated -/
theorem C17_v1_position_own (pats : List PatObj) (st : GenSt) (p : Pos) :
    resolve PQuirks.clean pats st p = ownSpec pats p := by
  simp [resolve, nameAt, mkName, PQuirks.clean, ownSpec]

/-- … and the pattern in force during a field is the one of its own `Annotated[…]`, or none -/
theorem C17_v1_pattern_scope (fields : List Field) :
    ∀ (prev : Option Nat) (i : Nat), stickyAt PQuirks.clean prev fields i = (fields[i]?).bind (·.ann) := by
  induction fields with
  | nil => intro prev i; simp [stickyAt]
  | cons f fs ih =>
    intro prev i
    cases i with
    | zero =>
      cases h : f.ann <;> simp [stickyAt, stickyStep, PQuirks.clean, h]
    | succ j => simp only [stickyAt, List.getElem?_cons_succ]; exact ih _ j

/-- For every implementation, deviating or not: after generating for a non-empty list `ps` of positions that are all the
same position `x` (one pattern object at one type), `x` runs the function generated for that type with that object's
patterns and zone. That the positions of a class (`classPositions`) are all equal is the hypothesis on `ps`; it is not
derived from a field list here -/
theorem C17_v1_position_partial (q : PQuirks) (pats : List PatObj) (x : Pos) (ps : List Pos)
    (hall : ∀ y ∈ ps, y = x) (hne : ps ≠ []) :
    resolve q pats (genPositions q pats ps) x = ownSpec pats x := by
  obtain ⟨hinv, hf⟩ := genPositions_inv (q := q) (pats := pats) ps hall hne
  exact resolve_inv hinv hf

/-- the witness class of the first deviation: ONE `Pattern('%d/%m/%Y')` object on a `date` field and on a `datetime` field -/
def sharedFields : List Field := [{ ty := .leaf .date false, ann := some 0 }, { ty := .leaf .datetime false, ann := some 0 }]
def sharedPats : List PatObj := [{ patterns := ["%d/%m/%Y".toList] }]

/-- a stdlib that knows one text -/
def oneStrptime (p s : S) : Option DT :=
  if p = "%d/%m/%Y".toList ∧ s = "01/02/2022".toList then some ⟨⟨2022, 2, 1⟩, ⟨0, 0, 0, 0, none⟩⟩ else none

def oneStd : PatStd := { noStd with strptime := oneStrptime }

/-- Non-vacuity: the hypotheses of `C17_pattern_value` and of `C17_v1_pattern_value` are satisfiable (the day-first text is
not ISO-8601, the declared pattern reads it), and the theorems then give the expected `date` -/
theorem C17_pattern_value_applies :
    patternTransform oneStd PQuirks.clean .date false "%d/%m/%Y".toList (.str "01/02/2022".toList)
      = .ok (.dv (.date false { y := 2022, m := 2, d := 1 }))
    ∧ loadToPattern oneStd { k := .date, sub := true, patterns := ["%Y.%m.%d".toList, "%d/%m/%Y".toList], tz := none }
        (.str "01/02/2022".toList) = .ok (.dv (.date true { y := 2022, m := 2, d := 1 })) := by
  constructor
  · exact C17_pattern_value oneStd PQuirks.clean .date false "%d/%m/%Y".toList "01/02/2022".toList
      ⟨⟨2022, 2, 1⟩, ⟨0, 0, 0, 0, none⟩⟩ rfl (by decide)
  · exact C17_v1_pattern_value oneStd
      { k := .date, sub := true, patterns := ["%Y.%m.%d".toList, "%d/%m/%Y".toList], tz := none }
      "01/02/2022".toList "%d/%m/%Y".toList ⟨⟨2022, 2, 1⟩, ⟨0, 0, 0, 0, none⟩⟩ ["%Y.%m.%d".toList] [] rfl rfl
      (by intro p hp; simp at hp; subst hp; decide) (by decide)

/-- Witness (unchanged code, deviation `v1GuardByObject`): the pattern object keeps the first type it was bound to — the
`datetime` field is loaded by the function generated for `date` and returns a `date` -/
theorem C17_v1_shared_pattern_witness :
    resolve { v1GuardByObject := true } sharedPats (genClass { v1GuardByObject := true } sharedPats sharedFields)
        { pid := 0, k := .datetime, sub := false, subscripted := false }
      = { k := .date, sub := false, patterns := ["%d/%m/%Y".toList], tz := none }
    ∧ pLoadField oneStd .v1 { v1GuardByObject := true } sharedPats sharedFields 1 (.str "01/02/2022".toList)
      = .ok (.dv (.date false { y := 2022, m := 2, d := 1 }))
    ∧ pLoadField oneStd .v1 PQuirks.clean sharedPats sharedFields 1 (.str "01/02/2022".toList)
      = .ok (.dv (.datetime false { date := { y := 2022, m := 2, d := 1 }, time := { h := 0, mi := 0, s := 0, us := 0, tz := none } })) := by
  refine ⟨by decide, by rfl, by rfl⟩

/-- Witness (deviation `v1NameByType`): two different pattern objects on two `date` fields share the function name; the
first field runs the function of the second and no longer knows its own pattern -/
theorem C17_v1_name_collision_witness :
    let pats : List PatObj := [{ patterns := ["%d/%m/%Y".toList] }, { patterns := ["%Y.%m.%d".toList] }]
    let fields : List Field := [{ ty := .leaf .date false, ann := some 0 }, { ty := .leaf .date false, ann := some 1 }]
    resolve { v1NameByType := true } pats (genClass { v1NameByType := true } pats fields)
        { pid := 0, k := .date, sub := false, subscripted := false }
      = { k := .date, sub := false, patterns := ["%Y.%m.%d".toList], tz := none }
    ∧ pLoadField oneStd .v1 { v1NameByType := true } pats fields 0 (.str "01/02/2022".toList) = .error (.noMatch ["%Y.%m.%d".toList])
    ∧ pLoadField oneStd .v1 PQuirks.clean pats fields 0 (.str "01/02/2022".toList) = .ok (.dv (.date false { y := 2022, m := 2, d := 1 })) := by
  refine ⟨by decide, by rfl, by rfl⟩

/-- Witness (same deviation, subscripted form): `AwareTimePattern['America/New_York', '%H.%M']` and
`AwareTimePattern['Europe/London', '%H.%M']` in one class — both fields get the zone of the later one -/
theorem C17_v1_zone_collision_witness :
    let pats : List PatObj := [{ patterns := ["%H.%M".toList], tz := some (.zone "America/New_York".toList), aware := true },
                               { patterns := ["%H.%M".toList], tz := some (.zone "Europe/London".toList), aware := true }]
    let fields : List Field := [{ ty := .pat .time 0 }, { ty := .pat .time 1 }]
    (resolve { v1NameByType := true } pats (genClass { v1NameByType := true } pats fields)
        { pid := 0, k := .time, sub := false, subscripted := true }).tz = some (.zone "Europe/London".toList) := by
  decide

/-- Witness (deviation `v1PatternSticky`): after `a: Annotated[date, Pattern(..)]` the plain field `b: date` is generated
with that pattern still in force (and accepts its texts) -/
theorem C17_v1_sticky_witness :
    let fields : List Field := [{ ty := .leaf .date false, ann := some 0 }, { ty := .leaf .date false }]
    stickyAt { v1PatternSticky := true } none fields 1 = some 0
    ∧ pLoadField oneStd .v1 { v1PatternSticky := true } sharedPats fields 1 (.str "01/02/2022".toList)
      = .ok (.dv (.date false { y := 2022, m := 2, d := 1 }))
    ∧ pLoadField oneStd .v1 PQuirks.clean sharedPats fields 1 (.str "01/02/2022".toList) = .error .valueError := by
  refine ⟨by decide, by rfl, by rfl⟩

end DW.Props.C17
