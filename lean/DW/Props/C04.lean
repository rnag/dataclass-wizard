/-
C04 — loading applies the documented coercions, and only those: default engine, v1 engine (`C04_v1_*`)
and EnvWizard (`C04_env_*`).
-/
import DW.Generated.Tables
import DW.Model.Load
import DW.Model.LoadV1
import DW.Model.EnvLoad
import DW.Lemmas.C04
import DW.Lemmas.Strings
import DW.Lemmas.LoadEqns

namespace DW.Props.C04
open DW

/-- The truthy table in the source is exactly the documented set {true, t, yes, y, on, 1}. -/
theorem C04_truthy_table : Generated.truthyValues = ["1", "on", "t", "true", "y", "yes"] := rfl

/-- `bool` from a string: case-insensitive membership in the truthy table, nothing else. -/
theorem C04_bool_of_str (s : S) :
    asBool (.str s) = Generated.truthyValues.contains (String.ofList (Str.lowerS s)) := rfl

/-- `bool` from a number: `== 1`. -/
theorem C04_bool_of_int (i : Int) : asBool (.int i) = (i == 1) := rfl
theorem C04_bool_of_float (f : PyFloat) : asBool (.float f) = f.eqOne := rfl
theorem C04_bool_of_bool (b : Bool) : asBool (.bool b) = b := rfl

/-- `int`: a bool is rejected (TypeError), never coerced. -/
theorem C04_int_rejects_bool (std : Std) (b : Bool) : asInt std (.bool b) = .error (.raw "TypeError".toList) := rfl

/-- `int`: `''` and `None` give 0; an int is returned unchanged. -/
theorem C04_int_empty (std : Std) : asInt std (.str []) = .ok (.int 0) ∧ asInt std .null = .ok (.int 0) := ⟨rfl, rfl⟩
theorem C04_int_identity (std : Std) (i : Int) : asInt std (.int i) = .ok (.int i) := rfl

/-- `int` from a finite float is `round()`: round-half-even of the exact value. -/
theorem C04_int_of_float (std : Std) (neg : Bool) (m : Nat) (e : Int) (r : S) :
    asInt std (.float (.fin neg m e r)) = .ok (.int (PyFloat.sign neg (PyFloat.finRoundHalfEven m e))) := rfl

/-- Rounding `m / d` to the nearest integer, ties to even, for any divisor `d`: write `m = d * a + b` with `b < d`; the
result is `a` or `a + 1`, at distance `b` resp. `d - b` from `m` (`lo`, `hi`), and what is left is linear. -/
theorem roundHalfEven_spec (d a b : Nat) (hb : b < d) (m q : Nat) (hm : m = d * a + b)
    (hq : q = if 2 * b < d then a else if 2 * b > d then a + 1 else if a % 2 = 0 then a else a + 1) :
    (2 * (m - q * d) ≤ d ∧ 2 * (q * d - m) ≤ d) ∧ ((2 * (m - q * d) = d ∨ 2 * (q * d - m) = d) → q % 2 = 0) := by
  have lo : m - a * d = b ∧ a * d - m = 0 := by
    rw [hm, Nat.mul_comm a d]; exact ⟨Nat.add_sub_cancel_left .., Nat.sub_eq_zero_of_le (Nat.le_add_right ..)⟩
  have hi : m - (a + 1) * d = 0 ∧ (a + 1) * d - m = d - b := by
    rw [hm, Nat.add_mul, Nat.mul_comm a d, Nat.one_mul]
    exact ⟨Nat.sub_eq_zero_of_le (Nat.add_le_add_left (Nat.le_of_lt hb) _), Nat.add_sub_add_left ..⟩
  -- `omega` would split on each truncated subtraction it finds among the hypotheses
  clear hm
  subst hq
  split
  · rw [lo.1, lo.2]; clear lo hi; omega
  · split
    · rw [hi.1, hi.2]; clear lo hi; omega
    · split
      · rw [lo.1, lo.2]; clear lo hi; omega
      · rw [hi.1, hi.2]; clear lo hi; omega

/-- round-half-even really is the nearest integer, ties to even: with `d = 10^(k+1)` (the exponent is `-(k+1)`) and
`x = m / d`, the result `q` satisfies `|m - q·d| ≤ d/2`, and on an exact tie `q` is even. -/
theorem C04_round_half_even_spec (m k : Nat) :
    let d := 10 ^ (k + 1)
    let q := PyFloat.finRoundHalfEven m (Int.negSucc k)
    (2 * (m - q * d) ≤ d ∧ 2 * (q * d - m) ≤ d) ∧ ((2 * (m - q * d) = d ∨ 2 * (q * d - m) = d) → q % 2 = 0) := by
  intro d q
  have hneg : ¬ (Int.negSucc k ≥ 0) := by simp
  exact roundHalfEven_spec d (m / d) (m % d) (Nat.mod_lt m (Nat.pow_pos (by decide))) m q (Nat.div_add_mod m d).symm
    (by simp only [q, PyFloat.finRoundHalfEven, if_neg hneg, Int.natAbs_negSucc]; rfl)

/-- `str`: `None` becomes `''`, a string is unchanged, an int becomes its decimal text. -/
theorem C04_str (i : Int) (s : S) :
    asStr .null = .ok (.str []) ∧ asStr (.str s) = .ok (.str s) ∧ asStr (.int i) = .ok (.str (intRepr i)) := ⟨rfl, rfl, rfl⟩

/-- datetime / time strings: a `Z` is first rewritten to `+00:00`, then `fromisoformat`. -/
theorem C04_datetime_of_str (std : Std) (s t : S) (h : std.datetimeFromIso (zToOffset s) = some t) :
    asDatetime std (.str s) = .ok (.leaf .datetime false t) := by
  simp [asDatetime, h, pure, Except.pure]

/-- epoch numbers for datetime are read in UTC (`fromtimestamp(o, tz=utc)`), never for a bool. -/
theorem C04_datetime_of_number (std : Std) (i : Int) (t : S) (h : std.datetimeFromTsUtc (.int i) = some t) :
    asDatetime std (.int i) = .ok (.leaf .datetime false t) := by
  simp [asDatetime, jNumExact?, h, pure, Except.pure]

theorem C04_datetime_rejects_bool (std : Std) (b : Bool) :
    asDatetime std (.bool b) = .error (.raw "TypeError".toList) := rfl

/-- Enum: lookup by value. -/
theorem C04_enum_by_value (name : S) (members : List (S × Lit)) (o : JVal) (m : S × Lit)
    (h : members.find? (fun m => jEqLit o m.2) = some m) :
    asEnum name members o = .ok (.enum name m.1 m.2) := by
  simp [asEnum, h, pure, Except.pure]

/-- The same coercion applies at every nesting depth: containers convert element-wise with the
element type's own loader (no context-dependent behaviour). -/
theorem C04_nesting_list (std : Std) (cfg : Option MetaCfg) (k : SeqKind) (t : Ty) (xs : List JVal) :
    loadD std cfg (.seq k t) (.list xs) = (mapME (fun x => loadD std cfg t x) xs) >>= mkSeq k := rfl

theorem C04_nesting_optional (std : Std) (cfg : Option MetaCfg) (t : Ty) (o : JVal) (h : o.kind ≠ .null) :
    loadD std cfg (.optional t) o = loadD std cfg t o := by
  cases o with
  | null => exact absurd rfl h
  | _ => rfl

open DW.Lemmas.C04

/-- v1 `str`: `None` becomes `''` (the template `'' if v is None else str(v)`), a string is unchanged. -/
theorem C04_v1_str (std : Std) (cfg : Option MetaCfg) (s : S) :
    loadV1 std cfg .str .null = .ok (.str []) ∧ loadV1 std cfg .str (.str s) = .ok (.str s) := ⟨rfl, rfl⟩

/-- v1 `bool` from a string: case-insensitive membership in the same truthy table as the default engine. -/
theorem C04_v1_bool_of_str (std : Std) (cfg : Option MetaCfg) (s : S) :
    loadV1 std cfg .bool (.str s) = .ok (.bool (Generated.truthyValues.contains (String.ofList (Str.lowerS s)))) := rfl

/-- v1 `bool` from a number: `== 1`. -/
theorem C04_v1_bool_of_int (std : Std) (cfg : Option MetaCfg) (i : Int) :
    loadV1 std cfg .bool (.int i) = .ok (.bool (i == 1)) := rfl

/-- v1 `int`: a float with a fractional part is rejected, an integral one is converted exactly
(README "What's New in v1.0": Float to Int Conversion Change). -/
theorem C04_v1_int_of_float (std : Std) (cfg : Option MetaCfg) (neg : Bool) (m : Nat) (e : Int) (r : S) :
    loadV1 std cfg .int (.float (.fin neg m e r)) =
      (if PyFloat.finIsInteger m e then .ok (.int (PyFloat.sign neg (PyFloat.finTrunc m e))) else .error (.parse none none)) := by
  simp only [loadV1_int, v1Int, PyFloat.isInteger, PyFloat.toInt, perr, pure, Except.pure]
  split <;> simp [*]

/-- v1 `int` from a float string (a string containing '.'): `float(s)` must be integral. -/
theorem C04_v1_int_of_float_str (std : Std) (cfg : Option MetaCfg) (s : S) (f : PyFloat)
    (hdot : s.contains '.' = true) (hf : std.floatOfStr s = some f) (hfrac : f.isInteger = false) :
    loadV1 std cfg .int (.str s) = .error (.parse none none) := by
  have hmem : '.' ∈ s := by simpa using hdot
  simp [loadV1_int, v1Int, hmem, hf, hfrac, perr]

/-- v1 `int`: `None`, `''` and a bool are rejected (not coerced to 0 / 1). -/
theorem C04_v1_int_rejects (std : Std) (cfg : Option MetaCfg) (b : Bool) :
    loadV1 std cfg .int .null = .error (.parse none none) ∧
    loadV1 std cfg .int (.str []) = .error (.parse none none) ∧
    loadV1 std cfg .int (.bool b) = .error (.parse none none) := ⟨rfl, rfl, rfl⟩

/-- v1 containers convert element-wise with the element type's own loader — for every element type. -/
theorem C04_v1_list_elementwise (std : Std) (cfg : Option MetaCfg) (k : SeqKind) (t : Ty) (xs : List JVal) :
    loadV1 std cfg (.seq k t) (.list xs) =
      (mapME (fun x => loadV1 std cfg t x) xs >>= fun ys => (mkSeq k ys).mapError v1Wrap) := rfl

theorem C04_v1_vtuple_elementwise (std : Std) (cfg : Option MetaCfg) (t : Ty) (xs : List JVal) :
    loadV1 std cfg (.vtuple t) (.list xs) = (mapME (fun x => loadV1 std cfg t x) xs >>= fun ys => pure (.tuple ys)) := rfl

theorem C04_v1_dict_elementwise (std : Std) (cfg : Option MetaCfg) (mk : MapKind) (kt vt : Ty) (kvs : List (S × JVal)) :
    loadV1 std cfg (.map mk kt vt) (.dict kvs) =
      (mapME (fun (kv : S × JVal) => do
          let k' ← loadV1 std cfg kt (.str kv.1)
          let v' ← loadV1 std cfg vt kv.2
          pure (k', v')) kvs >>= fun ps => (mkMap mk ps).mapError v1Wrap) := rfl

/-- a list loads to a list exactly when every element loads, position by position, with the *same* function
`loadV1 t`. -/
theorem C04_v1_list_pointwise (std : Std) (cfg : Option MetaCfg) (t : Ty) (xs : List JVal) (ys : List PyVal) :
    loadV1 std cfg (.seq .list t) (.list xs) = .ok (.seq .list ys) ↔
      Pointwise (fun x y => loadV1 std cfg t x = .ok y) xs ys := by
  rw [C04_v1_list_elementwise, ← mapME_ok_iff]
  cases h : mapME (fun x => loadV1 std cfg t x) xs with
  | error e => simp [bind, Except.bind]
  | ok r => simp [bind, Except.bind, mkSeq, pure, Except.pure, Except.mapError]

/-- `Optional[T]` is transparent for every non-null value: the wrapped type's own loader runs
(no flag travels from the Optional into the positions below it). -/
theorem C04_v1_optional (std : Std) (cfg : Option MetaCfg) (t : Ty) (o : JVal) (h : o.kind ≠ .null) :
    loadV1 std cfg (.optional t) o = loadV1 std cfg t o := by
  cases o with
  | null => exact absurd rfl h
  | _ => rfl

theorem loadV1_layer (std : Std) (cfg : Option MetaCfg) (l : Layer) (t : Ty) (v : JVal) (h : l = .opt → v.kind ≠ .null) :
    loadV1 std cfg (l.wrapTy t) (l.wrapDoc v) = l.liftV1 (loadV1 std cfg t v) := by
  cases l with
  | seq k => exact (C04_v1_list_elementwise ..).trans (mapME_singleton_bind ..)
  | vtuple => exact (C04_v1_vtuple_elementwise ..).trans (mapME_singleton_bind ..)
  | mapVal mk key =>
    refine (C04_v1_dict_elementwise ..).trans ((mapME_singleton_bind ..).trans ?_)
    simp only [(C04_v1_str std cfg key).2, bind_assoc, pure_bind]
    rfl
  | opt => exact C04_v1_optional std cfg t v (h rfl)

/-- Position independence (v1): through any stack of list / set / deque / variadic-tuple / dict-value / Optional
layers the value at the leaf is converted by `loadV1 t` — the same function as at the bare position — and the
result is only re-wrapped by the layers. -/
theorem C04_v1_nesting (std : Std) (cfg : Option MetaCfg) (t : Ty) (v : JVal) (ls : List Layer) (h : optOk ls v = true) :
    loadV1 std cfg (wrapTys ls t) (wrapDocs ls v) = liftsV1 ls (loadV1 std cfg t v) :=
  nesting_of_layer (loadV1 std cfg) Layer.liftV1 (fun _ => True) (fun l t v _ => loadV1_layer std cfg l t v) t v ls
    (fun _ _ => trivial) h

/-- in particular: a `None` at a `str` position nested inside an `Optional[...]`-wrapped container loads as `''`,
exactly like at a `str` position outside it (`Optional[list[str]]`, `Optional[dict[str, str]]`,
`Optional[list[list[str]]]`, …: any stack whose innermost layer is a container). -/
theorem C04_v1_str_none_nested (std : Std) (cfg : Option MetaCfg) (ls : List Layer) (h : optOk ls .null = true) :
    loadV1 std cfg (wrapTys ls .str) (wrapDocs ls .null) = liftsV1 ls (.ok (.str [])) := by
  rw [C04_v1_nesting std cfg .str .null ls h, (C04_v1_str std cfg []).1]

/-- the case the trial change `/verif/seeded/C04-M1` gets wrong (there the element positions inherit the `Optional`'s
`in_optional` flag): `Optional[List[str]]` with `[None, …]`. -/
theorem C04_v1_optional_list_str_none (std : Std) (cfg : Option MetaCfg) :
    loadV1 std cfg (.optional (.seq .list .str)) (.list [.null]) = .ok (.seq .list [.str []]) := by
  have := C04_v1_str_none_nested std cfg [.opt, .seq .list] (by decide)
  simpa [wrapTys, wrapDocs, Layer.wrapTy, Layer.wrapDoc, liftsV1, Layer.liftV1, mkSeq, bind, Except.bind, pure,
    Except.pure, Except.mapError] using this

/-- fixed-length tuple (v1): member `k` of the value is converted by the loader of member type `k` — the values
before position `k` play no role. -/
theorem C04_v1_tuple_elementwise (std : Std) (cfg : Option MetaCfg) (ts : List Ty) (pre xs : List JVal)
    (h : xs.length = ts.length) :
    v1Tuple std cfg ts pre.length (.list (pre ++ xs)) =
      mapME (fun (p : Ty × JVal) => loadV1 std cfg p.1 p.2) (ts.zip xs) := by
  induction ts generalizing pre xs with
  | nil => simp [v1Tuple, mapME]
  | cons t ts ih =>
    cases xs with
    | nil => simp at h
    | cons x xs =>
      have hlen : xs.length = ts.length := by simpa using h
      have hidx : jIndex (.list (pre ++ x :: xs)) pre.length = some x := by simp [jIndex]
      have hrec := ih (pre ++ [x]) xs hlen
      simp only [List.length_append, List.length_singleton, List.append_assoc, List.singleton_append] at hrec
      simp only [v1Tuple, hidx, List.zip_cons_cons, mapME, hrec]

/-- `tuple[T1, T2]` (v1): each member by its own loader. -/
theorem C04_v1_tuple_pair (std : Std) (cfg : Option MetaCfg) (t1 t2 : Ty) (x1 x2 : JVal) :
    loadV1 std cfg (.tuple [t1, t2]) (.list [x1, x2]) =
      (do let y1 ← loadV1 std cfg t1 x1
          let y2 ← loadV1 std cfg t2 x2
          pure (.tuple [y1, y2])) := by
  have := C04_v1_tuple_elementwise std cfg [t1, t2] [] [x1, x2] rfl
  simp only [List.length_nil, List.nil_append] at this
  simp only [loadV1_tuple, List.isEmpty_cons, Bool.false_eq_true, if_false, this, List.zip_cons_cons, List.zip_nil_right,
    mapME_cons, mapME_nil, bind_assoc, pure_bind]
  rfl

/-- TypedDict member (v1): the value under a required key is converted by that key's loader. -/
theorem C04_v1_typeddict_member (std : Std) (cfg : Option MetaCfg) (name k : S) (t : Ty) (v : JVal) :
    loadV1 std cfg (.typeddict name [(k, t, true)]) (.dict [(k, v)]) =
      (loadV1 std cfg t v >>= fun y => pure (.map .dict [(.str k, y)])) := by
  simp [loadV1_typeddict, v1Td, bind, Except.bind, pure, Except.pure]
  cases loadV1 std cfg t v <;> simp

/-- NamedTuple member (v1): field `i` of the class is converted from element `i` by the field's loader. -/
theorem C04_v1_namedtuple_member (std : Std) (cfg : Option MetaCfg) (name a b : S) (t : Ty) (s : S) (v : JVal) (y : PyVal)
    (h : loadV1 std cfg t v = .ok y) :
    loadV1 std cfg (.ntuple name [(a, .str, none), (b, t, none)]) (.list [.str s, v]) = .ok (.ntuple name [a, b] [.str s, y]) := by
  simp [loadV1_ntuple_list, loadV1_str, v1NtSeq, jIndex, v1Str, asStr, h, bind, Except.bind, pure, Except.pure]

/-- … and a library error of the member's loader (ParseError, MissingFields, …) is the error of the whole. (A raw
IndexError — a nested fixed-length tuple that is too short — is caught by the NamedTuple loader itself and reported as
MissingFields: modelled in `v1NtSeq`, exercised by the C14 correspondence.) -/
theorem C04_v1_namedtuple_member_error (std : Std) (cfg : Option MetaCfg) (name a b : S) (t : Ty) (s : S) (v : JVal) (e : LErr)
    (h : loadV1 std cfg t v = .error e) (hr : ∀ k, e ≠ .raw k) :
    loadV1 std cfg (.ntuple name [(a, .str, none), (b, t, none)]) (.list [.str s, v]) = .error e := by
  -- `simp` takes the catch-all arm of the `match` on the member's error by discharging its side condition with `hr`
  simp [loadV1_ntuple_list, loadV1_str, v1NtSeq, jIndex, v1Str, asStr, h, bind, Except.bind, pure, Except.pure]

/-- `bool` from an environment string follows the truthy table (case-insensitive), like the default engine. -/
theorem C04_env_bool_of_str (std : Std) (js : S → Option JVal) (cfg : Option MetaCfg) (s : S) :
    loadE std js cfg .bool (.str s) = .ok (.bool (Generated.truthyValues.contains (String.ofList (Str.lowerS s)))) := rfl

/-- The order of the decision for `datetime`, for all strings: the numeric-form test comes first.  A string in numeric
form is an epoch timestamp (UTC) … -/
theorem C04_env_datetime_numeric (std : Std) (s : S) (h : looksNumeric s = true) :
    envDatetime std (.str s) =
      (match std.floatOfStr s with
       | none => .error (.raw "ValueError".toList)
       | some f => match std.datetimeFromTsUtc (.float f) with
         | some t => .ok (.leaf .datetime false t)
         | none => .error (.raw "OverflowError".toList)) := by
  simp only [envDatetime, h, if_true, rawE, pure, Except.pure]
  cases std.floatOfStr s with
  | none => rfl
  | some f => cases std.datetimeFromTsUtc (.float f) <;> rfl

/-- … whatever `fromisoformat` would make of it: the ISO parser is never consulted for a numeric string
(so `'20240101'` can never load as the compact ISO date 2024-01-01). -/
theorem C04_env_datetime_numeric_ignores_iso (std : Std) (iso : S → Option S) (s : S) (h : looksNumeric s = true) :
    envDatetime { std with datetimeFromIso := iso } (.str s) = envDatetime std (.str s) := by
  simp only [envDatetime, h, if_true]

/-- … and every other string goes to `fromisoformat` after the `Z` rewrite; the timestamp branch is never consulted. -/
theorem C04_env_datetime_iso (std : Std) (s : S) (h : looksNumeric s = false) :
    envDatetime std (.str s) =
      (match std.datetimeFromIso (zToOffset s) with
       | some t => .ok (.leaf .datetime false t)
       | none => .error (.raw "ValueError".toList)) := by
  simp only [envDatetime, h, rawE, pure, Except.pure]
  cases std.datetimeFromIso (zToOffset s) <;> rfl

/-- the same order for `date`. -/
theorem C04_env_date_numeric (std : Std) (s : S) (h : looksNumeric s = true) :
    envDate std (.str s) =
      (match std.floatOfStr s with
       | none => .error (.raw "ValueError".toList)
       | some f => match std.dateFromTs (.float f) with
         | some t => .ok (.leaf .date false t)
         | none => .error (.raw "OverflowError".toList)) := by
  simp only [envDate, h, if_true, rawE, pure, Except.pure]
  cases std.floatOfStr s with
  | none => rfl
  | some f => cases std.dateFromTs (.float f) <;> rfl

theorem C04_env_date_numeric_ignores_iso (std : Std) (iso : S → Option S) (s : S) (h : looksNumeric s = true) :
    envDate { std with dateFromIso := iso } (.str s) = envDate std (.str s) := by
  simp only [envDate, h, if_true]

theorem C04_env_date_iso (std : Std) (s : S) (h : looksNumeric s = false) :
    envDate std (.str s) =
      (match std.dateFromIso s with
       | some t => .ok (.leaf .date false t)
       | none => .error (.raw "ValueError".toList)) := by
  simp only [envDate, h, rawE, pure, Except.pure]
  cases std.dateFromIso s <;> rfl

/-- what "numeric form" is: a non-empty run of digits … -/
theorem C04_env_numeric_digits (s : S) (hne : s ≠ []) (hd : s.all Str.isDig = true) : looksNumeric s = true := by
  have := replaceFirst_char_of_not_mem '.' [] s (noDot_of_allDigits s hd)
  simp [looksNumeric, this, hd, hne]

/-- … or digits with exactly one point somewhere (at least one digit overall) … -/
theorem C04_env_numeric_point (a b : S) (ha : a.all Str.isDig = true) (hb : b.all Str.isDig = true) (hne : a ++ b ≠ []) :
    looksNumeric (a ++ '.' :: b) = true := by
  have := replaceFirst_char_append '.' [] a b (noDot_of_allDigits a ha)
  simpa [looksNumeric, this, List.all_append, ha, hb] using hne

/-- … and nothing carrying a sign, an exponent or a blank. -/
theorem C04_env_numeric_rejects (c : Char) (a b : S) (hc : Str.isDig c = false) (hdot : c ≠ '.') :
    looksNumeric (a ++ c :: b) = false :=
  looksNumeric_false_of_mem (by simp) hc hdot

/-- `'20240101'` is in numeric form, hence an epoch timestamp for every `Std` (whatever `fromisoformat` accepts). -/
theorem C04_env_compact_date_is_epoch (std : Std) (iso : S → Option S) :
    envDate { std with dateFromIso := iso } (.str "20240101".toList) = envDate std (.str "20240101".toList) ∧
    envDatetime { std with datetimeFromIso := iso } (.str "20240101".toList) = envDatetime std (.str "20240101".toList) :=
  ⟨C04_env_date_numeric_ignores_iso std iso _ (by decide), C04_env_datetime_numeric_ignores_iso std iso _ (by decide)⟩

/-- Shorthand form: a string that does not look like JSON is split on commas, every item is stripped,
and each item is converted by the element type's own loader (split, then element-wise coercion). -/
theorem C04_env_list_shorthand (std : Std) (js : S → Option JVal) (cfg : Option MetaCfg) (k : SeqKind) (t : Ty) (s : S)
    (h : looksJson '[' s = false) :
    loadE std js cfg (.seq k t) (.str s) =
      (mapME (fun x => loadE std js cfg t (.str x)) (commaItems s) >>= mkSeq k) := by
  simp [loadE_seq, envAsList, h, jIter, mapME_map, bind, Except.bind, pure, Except.pure]

/-- JSON form: the parsed list is converted element-wise by the same loader. -/
theorem C04_env_list_json (std : Std) (js : S → Option JVal) (cfg : Option MetaCfg) (k : SeqKind) (t : Ty) (s : S)
    (xs : List JVal) (h : looksJson '[' s = true) (hj : js s = some (.list xs)) :
    loadE std js cfg (.seq k t) (.str s) = (mapME (fun x => loadE std js cfg t x) xs >>= mkSeq k) := by
  simp [loadE_seq, envAsList, h, hj, jIter, bind, Except.bind, pure, Except.pure]

/-- an already parsed list (a value nested in a JSON form) is converted element-wise by the same loader. -/
theorem C04_env_list_elementwise (std : Std) (js : S → Option JVal) (cfg : Option MetaCfg) (k : SeqKind) (t : Ty)
    (xs : List JVal) :
    loadE std js cfg (.seq k t) (.list xs) = (mapME (fun x => loadE std js cfg t x) xs >>= mkSeq k) := rfl

theorem C04_env_dict_elementwise (std : Std) (js : S → Option JVal) (cfg : Option MetaCfg) (mk : MapKind) (kt vt : Ty)
    (kvs : List (S × JVal)) :
    loadE std js cfg (.map mk kt vt) (.dict kvs) =
      (mapME (fun (kv : S × JVal) => do
          let k' ← loadE std js cfg kt (.str kv.1)
          let v' ← loadE std js cfg vt kv.2
          pure (k', v')) kvs >>= mkMap mk) := rfl

/-- joining comma-free items and splitting gives the items back … -/
theorem C04_env_split_join (items : List S) (hne : items ≠ []) (h : ∀ x ∈ items, ',' ∉ x) :
    splitOn ',' (joinSep ',' items) = items :=
  splitOn_joinSep ',' items hne h

/-- … and joining the pieces of ANY string gives the string back: splitting loses nothing. -/
theorem C04_env_join_split (s : S) : joinSep ',' (splitOn ',' s) = s := joinSep_splitOn ',' s

/-- hence: the comma-joined form of comma-free, already stripped items loads as the list of the items' own
conversions — the same function `loadE t` as at a bare field. -/
theorem C04_env_list_of_items (std : Std) (js : S → Option JVal) (cfg : Option MetaCfg) (t : Ty) (items : List S)
    (hne : items ≠ []) (hc : ∀ x ∈ items, ',' ∉ x) (hs : ∀ x ∈ items, pyStrip x = x)
    (hj : looksJson '[' (joinSep ',' items) = false) :
    loadE std js cfg (.seq .list t) (.str (joinSep ',' items)) =
      (mapME (fun x => loadE std js cfg t (.str x)) items >>= fun ys => pure (.seq .list ys)) := by
  rw [C04_env_list_shorthand std js cfg .list t _ hj]
  have : commaItems (joinSep ',' items) = items := by
    simp only [commaItems, splitOn_joinSep ',' items hne hc]
    exact (List.map_congr_left hs).trans (List.map_id _)
  rw [this]
  rfl

/-- `k=v` shorthand: one pair without a comma loads as the one-entry dict of the stripped key and the stripped value,
each converted by its own loader. -/
theorem C04_env_dict_pair (std : Std) (js : S → Option JVal) (cfg : Option MetaCfg) (mk : MapKind) (kt vt : Ty) (k v : S)
    (hk : '=' ∉ k) (hc : ',' ∉ k ++ '=' :: v) (hj : looksJson '{' (k ++ '=' :: v) = false) :
    loadE std js cfg (.map mk kt vt) (.str (k ++ '=' :: v)) =
      (do let k' ← loadE std js cfg kt (.str (pyStrip k))
          let v' ← loadE std js cfg vt (.str (pyStrip v))
          mkMap mk [(k', v')]) := by
  have hsp := splitOn_noSep ',' _ hc
  have hp := partitionAt_append_sep '=' k v hk
  simp only [loadE_map, envAsDict, hj, hsp, kvPairs, hp, jDictOf, List.foldl, jDictInsert, List.any_nil,
    Bool.false_eq_true, if_false, List.nil_append, pure_bind, mapME_singleton_bind, bind_assoc]

theorem C04_env_optional (std : Std) (js : S → Option JVal) (cfg : Option MetaCfg) (t : Ty) (o : JVal) (h : o.kind ≠ .null) :
    loadE std js cfg (.optional t) o = loadE std js cfg t o := by
  cases o with
  | null => exact absurd rfl h
  | _ => rfl

/-- one layer (EnvWizard); the variadic tuple is left out: its parser sizes itself on the unsplit value -/
theorem loadE_layer (std : Std) (js : S → Option JVal) (cfg : Option MetaCfg) (l : Layer) (t : Ty) (v : JVal)
    (hl : match l with | .vtuple => False | _ => True) (h : l = .opt → v.kind ≠ .null) :
    loadE std js cfg (l.wrapTy t) (l.wrapDoc v) = l.liftE (loadE std js cfg t v) := by
  cases l with
  | seq k => exact (C04_env_list_elementwise ..).trans (mapME_singleton_bind ..)
  | vtuple => exact hl.elim
  | mapVal mk key =>
    refine (C04_env_dict_elementwise ..).trans ((mapME_singleton_bind ..).trans ?_)
    have hk : loadE std js cfg .str (.str key) = .ok (.str key) := rfl
    simp only [hk, bind_assoc, pure_bind]
    rfl
  | opt => exact C04_env_optional std js cfg t v (h rfl)

/-- Position independence (EnvWizard, inside a JSON form): through any stack of list / set / dict-value / Optional
layers the leaf value is converted by `loadE t`, the function used for a bare field. -/
theorem C04_env_nesting (std : Std) (js : S → Option JVal) (cfg : Option MetaCfg) (t : Ty) (v : JVal) (ls : List Layer)
    (hv : ∀ l ∈ ls, match l with | .vtuple => False | _ => True) (h : optOk ls v = true) :
    loadE std js cfg (wrapTys ls t) (wrapDocs ls v) = liftsE ls (loadE std js cfg t v) :=
  (nesting_of_layer (loadE std js cfg) Layer.liftE _ (fun l t v => loadE_layer std js cfg l t v) t v ls hv h).trans
    (liftsE_eq_foldr ..).symm

/-- Witness of a defect in the unchanged code (key `env-tuple-length-of-unsplit-string`): `TupleParser.__call__` checks
the element count on the value it is handed — under EnvWizard the *unsplit* string — so `tuple[str, int]` does not load
the two items of `'a,5'` (3 characters ≠ 2 members), for any stdlib tables. -/
theorem C04_env_fixed_tuple_witness (std : Std) (js : S → Option JVal) (cfg : Option MetaCfg) :
    loadE std js cfg (.tuple [.str, .int]) (.str "a,5".toList) = .error (.parse none none) := rfl

/-- When the string happens to have as many characters as the tuple has members, the items are converted
member by member (here: two members, no member accepting None). -/
theorem C04_env_fixed_tuple_partial (std : Std) (js : S → Option JVal) (cfg : Option MetaCfg) (t1 t2 : Ty) (s : S)
    (hlen : s.length = 2) (hj : looksJson '[' s = false)
    (h1 : acceptsNone t1 = false) (h2 : acceptsNone t2 = false) :
    loadE std js cfg (.tuple [t1, t2]) (.str s) =
      (loadZipE std js cfg [t1, t2] ((commaItems s).map JVal.str) >>= fun ys => pure (.tuple ys)) := by
  simp [loadE_tuple, jLen, hlen, h1, h2, envAsList, hj, jIter, bind, Except.bind, pure, Except.pure]

end DW.Props.C04
