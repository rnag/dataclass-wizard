/-
C07 — configuration of one class never changes the behaviour of another.
Dump side: the cache state machine `DW.Caches` (frame and locality of an operation's family).  Load side: the key caches are
per class (`C07_load_isolation`).
-/
import DW.Model.Caches
import DW.Lemmas.KeyCache

namespace DW.Props.C07
open DW DW.Caches

theorem get_set_eq (st : St) (c : Nat) (v : ClsSt) : (st.set c v).get c = v := by simp [St.get, St.set]
theorem get_set_ne {st : St} {c x : Nat} {v : ClsSt} (h : x ≠ c) : (st.set c v).get x = st.get x := by
  simp [St.get, St.set, h]

theorem dumpNested_frame (ds : Defs) (cfg : Option MetaL) (ns : List Nat) (st : St) (c : Nat) (hc : c ∉ ns) :
    ((dumpNested ds cfg st ns).1).get c = st.get c := by
  induction ns generalizing st with
  | nil => rfl
  | cons n r ih =>
    simp only [List.mem_cons, not_or] at hc
    simp only [dumpNested]
    rw [ih _ hc.2]
    exact get_set_ne hc.1

/-- the classes an operation can touch: the class itself and, for a dump, the classes nested in it -/
def family (ds : Defs) : Op → List Nat
  | .define c => [c]
  | .dump r => r :: (ds.get r).nested

/-- An operation on one family leaves the state of every class outside that family untouched. -/
theorem C07_frame (ds : Defs) (st : St) (op : Op) (c : Nat) (hc : c ∉ family ds op) :
    ((step ds st op).1).get c = st.get c := by
  cases op with
  | define d =>
    simp only [family, List.mem_singleton] at hc
    simp only [step]
    split <;> exact get_set_ne hc
  | dump r =>
    simp only [family, List.mem_cons, not_or] at hc
    simp only [step]
    rw [dumpNested_frame ds _ _ _ c hc.2]
    exact get_set_ne hc.1

def AgreeOn (P : Nat → Prop) (s1 s2 : St) : Prop := ∀ c, P c → s1.get c = s2.get c

theorem AgreeOn.set {P : Nat → Prop} {s1 s2 : St} (h : AgreeOn P s1 s2) (n : Nat) (v : ClsSt) :
    AgreeOn P (s1.set n v) (s2.set n v) := by
  intro c hc
  by_cases hcn : c = n
  · subst hcn; rw [get_set_eq, get_set_eq]
  · rw [get_set_ne hcn, get_set_ne hcn]; exact h c hc

/-- Agreement on a set that may be larger than `ns` is what lets the induction go through without asking whether a class
occurs again later in the list. -/
theorem dumpNested_local (ds : Defs) (cfg : Option MetaL) (P : Nat → Prop) (ns : List Nat) (hP : ∀ n ∈ ns, P n)
    (st1 st2 : St) (h : AgreeOn P st1 st2) :
    (dumpNested ds cfg st1 ns).2 = (dumpNested ds cfg st2 ns).2 ∧
      AgreeOn P (dumpNested ds cfg st1 ns).1 (dumpNested ds cfg st2 ns).1 := by
  induction ns generalizing st1 st2 with
  | nil => exact ⟨rfl, h⟩
  | cons n r ih =>
    simp only [dumpNested]
    rw [h n (hP n (List.mem_cons_self ..))]
    obtain ⟨h1, h2⟩ := ih (fun m hm => hP m (List.mem_cons_of_mem _ hm)) _ _ (h.set n _)
    exact ⟨by rw [h1], h2⟩

theorem step_local (ds : Defs) (op : Op) (P : Nat → Prop) (hP : ∀ c ∈ family ds op, P c) (st1 st2 : St)
    (h : AgreeOn P st1 st2) :
    (step ds st1 op).2 = (step ds st2 op).2 ∧ AgreeOn P (step ds st1 op).1 (step ds st2 op).1 := by
  cases op with
  | define c =>
    simp only [step]
    rw [h c (hP c (List.mem_singleton_self c))]
    split <;> exact ⟨rfl, h.set c _⟩
  | dump r =>
    have hr := hP r (List.mem_cons_self ..)
    simp only [step]
    rw [h r hr]
    obtain ⟨h1, h2⟩ := dumpNested_local ds (rootCfg (ds.get r).own) P (ds.get r).nested
      (fun n hn => hP n (List.mem_cons_of_mem _ hn)) _ _ (h.set r (genKeys (st2.get r)))
    exact ⟨by rw [h1, h2 r hr], h2⟩

theorem run_frame (ds : Defs) (ops : List Op) (st : St) (cs : List Nat)
    (h : ∀ op ∈ ops, ∀ c ∈ cs, c ∉ family ds op) (c : Nat) (hc : c ∈ cs) : ((run ds st ops).1).get c = st.get c := by
  induction ops generalizing st with
  | nil => rfl
  | cons op r ih =>
    simp only [run]
    rw [ih _ (fun op' hop' => h op' (List.mem_cons_of_mem _ hop'))]
    exact C07_frame ds st op c (h op List.mem_cons_self c hc)

/-- C07 (disjoint families): whatever operations are performed on other classes — definitions with any Meta, dumps
in any number and order — a dump of a class whose family is disjoint from theirs shows exactly what it would have
shown without them. -/
theorem C07_disjoint (ds : Defs) (st : St) (opsF : List Op) (g : Nat)
    (hdisj : ∀ op ∈ opsF, ∀ c ∈ family ds (.dump g), c ∉ family ds op) :
    (step ds (run ds st opsF).1 (.dump g)).2 = (step ds st (.dump g)).2 :=
  (step_local ds (.dump g) (· ∈ family ds (.dump g)) (fun _ hc => hc) _ _ (run_frame ds opsF st _ hdisj)).1

/-- Witness of a recorded finding: a nested class shared with a configured root keeps that root's key style afterwards —
`N` (class 0) dumped on its own after `Outer` (class 1, SNAKE) nested it shows snake_case keys, a fresh process
shows camelCase. -/
theorem C07_shared_nested_witness :
    let ds : Defs := [{ id := 0 }, { id := 1, own := some { kt := some .snake }, nested := [0] }]
    (step ds (run ds St.init [.define 0, .define 1, .dump 1]).1 (.dump 0)).2 = [(0, .snake, false)] ∧
    specDump ds 0 = [(0, .camel, false)] := by
  constructor <;> rfl

/-- **C07 (load side).** The key caches are per class: for any number of classes with any Meta and field loaders and **any
interleaved history** of loads over them, every call returns what the same call returns in a fresh process — no call on
one class changes what another class (or the class itself, later) loads. -/
theorem C07_load_isolation (specs : Nat → KeyCache.ClsSpec) (calls : List (Nat × List (S × JVal))) :
    (KeyCache.runWorld false specs (fun _ => []) calls).1 =
      calls.map (fun c => loadClassWith (specs c.1).fieldLoader (specs c.1).eff (specs c.1).ci (.dict c.2)) :=
  KeyCache.world_eq false specs calls (fun _ => []) (fun _ => KeyCache.Inv_nil _ _)

end DW.Props.C07
