/-
C19 — `wiz gen-schema` output imports and loads its source JSON, or fails cleanly.

Theorems about the model of `DW/Model/C19.lean` (`gsInfer`, `gsRun`/`gsModule`) and the command-line state
machine of `DW/Model/C19Spec.lean` (`cliRun`).  Full-strength statements are proved for the inference with
identity comparison in `TypeContainer.append` (`dedupByEq = false`); the unchanged code compares generator
objects structurally (all `TypeContainer`s are `==`), for which `_witness` theorems exhibit the violation and
`_partial` theorems hold under an explicit hypothesis.  "Valid Python that imports" itself is a runtime fact
(checked by the harness on every case); here it is carried by `C19_well_scoped`.
-/
import DW.Lemmas.C19
import DW.Lemmas.C19Scope

namespace DW.Props.C19
open DW DW.Str DW.Gs

/-- The schema inferred from a document accommodates that document (`Schema.Covers`): for every object at every
path, the class the schema has for that path declares a field named `toSnake key` for each of its keys; the
field's alternatives contain a class / list generator that accommodates the value in turn (recursively, through
lists of objects merged into one class at any depth), are Optional when the value is null, and contain the
inferred types of a scalar value. Inference with identity comparison in `append`. -/
theorem C19_covers_source (std : GsStd) (fl : Flags) (hd : fl.dedupByEq = false) (doc : JVal) (s : Schema)
    (h : gsInfer std fl doc = some s) : s.Covers std fl.forceStrings doc := by
  cases doc with
  | dict kvs =>
    cases h
    exact ((infer_covers std fl hd).1 0 kvs []).2
  | list xs =>
    cases h
    exact ((infer_covers std fl hd).2 _ true 0 xs ([], false)).2
  | null | bool _ | int _ | float _ | str _ => simp [gsInfer] at h

/-- one level of `CoversObj`, spelled out: each key `k` of the object has the field `toSnake k`, whose container
accommodates the key's value -/
theorem C19_every_key_has_field (std : GsStd) (force : Bool) (fs : Fields) :
    ∀ (kvs : List (S × JVal)), CoversObj std force fs kvs →
      ∀ k v, (k, v) ∈ kvs → ∃ tc, fieldsLookup (toSnake k) fs = some tc ∧ CoversV std force tc v
  | [], _, _, _, hm => nomatch hm
  | (k0, v0) :: r, hc, k, v, hm => by
    rcases List.mem_cons.mp hm with h | h
    · cases h; exact hc.1
    · exact C19_every_key_has_field std force fs r hc.2 k v h

/-- ... and the next level: a value that is an object has a class among the alternatives that accommodates it; a
value that is a list has a list generator whose model class accommodates every object element. Iterating the two
theorems descends every path of the document. -/
theorem C19_every_path (std : GsStd) (force : Bool) (tc : TC) :
    (∀ kvs, CoversV std force tc (.dict kvs) → ∃ d, Elem.cls d ∈ tc.1 ∧ CoversObj std force d.fields kvs) ∧
    (∀ xs, CoversV std force tc (.list xs) → ∃ l, Elem.lst l ∈ tc.1 ∧
        ∀ kvs, JVal.dict kvs ∈ xs → ∃ m, l.model = some m ∧ CoversObj std force m.fields kvs) :=
  ⟨fun _ h => h, fun xs ⟨l, hl, hc⟩ => ⟨l, hl, fun _ => CoversElems_mem xs hc _⟩⟩

/-- Root-level corollary in plain terms: the root class of an object document declares a field for every key. -/
theorem C19_root_fields (std : GsStd) (fl : Flags) (hd : fl.dedupByEq = false) (kvs : List (S × JVal)) (k : S) (v : JVal)
    (hk : (k, v) ∈ kvs) : ∃ d, gsInfer std fl (.dict kvs) = some (.obj d) ∧ (fieldsLookup (toSnake k) d.fields).isSome := by
  refine ⟨_, rfl, ?_⟩
  obtain ⟨tc, hl, _⟩ := C19_every_key_has_field std fl.forceStrings _ kvs ((infer_covers std fl hd).1 0 kvs []).2 k v hk
  simp [DGen.fields, hl]

/-- A key that is null in some element of a list of objects is Optional in the merged class, at any nesting depth:
stated for the list generator of any list (the document root, a field, a list inside merged siblings — `Covers`
reaches all of them). -/
theorem C19_optional_merge (std : GsStd) (fl : Flags) (hd : fl.dedupByEq = false) (xs : List JVal) (name : S) (isRoot : Bool)
    (lvl : Nat) (kvs : List (S × JVal)) (k : S) (hx : JVal.dict kvs ∈ xs) (hk : (k, JVal.null) ∈ kvs) :
    ∃ m tc, firstCls (inferElems std fl name isRoot lvl xs ([], false)).1 = some m ∧
      fieldsLookup (toSnake k) m.fields = some tc ∧ tc.2 = true := by
  have hc := ((infer_covers std fl hd).2 name isRoot lvl xs ([], false)).2
  obtain ⟨m, hm, hobj⟩ := CoversElems_mem xs hc _ hx
  obtain ⟨tc, hl, hv⟩ := C19_every_key_has_field std fl.forceStrings _ kvs hobj k .null hk
  exact ⟨m, tc, hm, hl, hv⟩

/-- The unchanged code (`dedupByEq = true`), partial form of `C19_covers_source`: on a document for which the structural
comparison infers the same schema as identity comparison does (`hsame`), the schema accommodates the document. -/
theorem C19_every_key_has_field_partial (std : GsStd) (fl : Flags) (doc : JVal) (s : Schema)
    (hsame : gsInfer std { fl with dedupByEq := true } doc = gsInfer std { fl with dedupByEq := false } doc)
    (h : gsInfer std { fl with dedupByEq := true } doc = some s) : s.Covers std fl.forceStrings doc := by
  rw [hsame] at h
  exact C19_covers_source std { fl with dedupByEq := false } rfl doc s h

/-- A generation does not depend on the state earlier generations left behind (import registry, `Globals`,
selected `__str__`): the new state and the module are the same from any two earlier states. By `rfl`: `gsRun` overwrites
all three fields of the state before it reads any. -/
theorem C19_deterministic (std : GsStd) (st st' : GsSt) (fl : Flags) (doc : JVal) :
    gsRun std st fl doc = gsRun std st' fl doc := rfl

/-- ... in particular generating document `b` after an unrelated document `a` (under any flags) gives what a
fresh process gives. -/
theorem C19_independent_of_earlier_runs (std : GsStd) (fl fl' : Flags) (a b : JVal) :
    (gsRun std (gsRun std GsSt.init fl' a).1 fl b).2 = gsModule std fl b := rfl

/-- Merging the classes of two sibling objects is commutative where the code is: the merged class declares the
same set of field names whichever sibling came first (field order and the order of Union members do follow the
document). -/
theorem C19_merge_fields_commute (dedup : Bool) (a b : DGen) (k : S) :
    (fieldsLookup k (mergeD dedup a b).fields).isSome = (fieldsLookup k (mergeD dedup b a).fields).isSome := by
  obtain ⟨_, _, afs⟩ := a
  obtain ⟨_, _, bfs⟩ := b
  simp only [mergeD, DGen.fields, mergeFields_keys]
  exact Bool.or_comm _ _

/-- Every name the generated module uses is bound: in every annotation the plain names are builtins or imported
by one of the module's import lines (the typing names registered while rendering, the date/time types registered
while the document was read), every class reference is a class the module defines, `dataclass` is imported and
`JSONWizard` is imported whenever a class is marked as the JSON root. -/
theorem C19_well_scoped (std : GsStd) (fl : Flags) (doc : JVal) (m : ModuleAst) (h : gsModule std fl doc = some m) :
    WellScoped m := by
  obtain ⟨s, G, hs, rfl, hdc, hdoc, hcls⟩ := gsModule_some h
  have hok := classesD_ok G ((classesD fl.experimental s.rootD).1.map (·.name)) fl.experimental s.rootD
    (gsInfer_prims G std fl doc s hdoc hs) (fun c hc => List.mem_map.mpr ⟨c, hc, rfl⟩) hcls
  refine ⟨?_, ?_, ?_⟩
  · intro c hc f hf
    obtain ⟨hnames, hrefs⟩ := (hok c hc).1 f hf
    refine ⟨fun n hn => (hnames n hn).imp_right ?_, hrefs⟩
    rintro ⟨i, hi, rfl⟩
    exact importLines_mem _ i hi
  · exact importLines_mem _ Imp.dataclass hdc
  · intro c hc hr
    exact importLines_mem _ Imp.jsonWizard ((hok c hc).2 hr)

/-- Under the decidable `NamesOK` (identifiers everywhere, class names pairwise distinct and distinct from what
the module imports or uses as builtins) every class name resolves, in the finished module, to the very class that
was emitted for it, and no class shadows an imported or builtin name. -/
theorem C19_names_resolve (std : GsStd) (fl : Flags) (doc : JVal) (m : ModuleAst) (h : gsModule std fl doc = some m)
    (hn : NamesOK m = true) :
    ∀ c ∈ m.classes, m.resolve c.name = some c ∧ c.name ∉ m.importedNames ∧ c.name ∉ builtinNames ∧
      identOK c.name = true ∧ ∀ f ∈ c.fields, identOK f.1 = true := by
  intro c hc
  simp only [NamesOK, Bool.and_eq_true, List.all_eq_true, Bool.not_eq_true'] at hn
  obtain ⟨hall, hnd⟩ := hn
  obtain ⟨⟨hid, hres⟩, hfs⟩ := hall c hc
  have hres' : c.name ∉ reservedNames := by simpa using hres
  refine ⟨?_, ?_, ?_, hid, hfs⟩
  · unfold ModuleAst.resolve
    apply find_by_name_of_inj
    · intro x hx y hy hxy
      exact nodupB_inj m.classes hnd x (List.mem_reverse.mp hx) y (List.mem_reverse.mp hy) hxy
    · exact List.mem_reverse.mpr hc
  · intro hmem
    apply hres'
    obtain ⟨s, G, _, rfl, _⟩ := gsModule_some h
    exact importLines_reserved _ _ hmem
  · exact fun hmem => hres' (reservedNames_eq ▸ List.mem_append_right _ hmem)

/-- `[{"a": 1}, {"b": 2}]`: a key that is missing from a sibling is a required, non-Optional field of the merged
class (so `from_dict` of either element raises MissingFields). -/
theorem C19_missing_key_witness :
    (gsModule plainStd {} (.list [.dict [(['a'], .int 1)], .dict [(['b'], .int 2)]])).map (ModuleAst.summary false) =
      some [("Container".toList, [("data".toList, "'Data'".toList)]),
            ("Data".toList, [(['a'], "int".toList), (['b'], "int".toList)])] := by decide +kernel

/-- `[{"x": {"p": {"q": 1}}}, {"x": 5}, {"x": {"p": {"r": 1}}}]`: with the structural comparison of the unchanged
code the third element's class generator is dropped as "already present" (same name, same field names), so key
`r` has no field anywhere; with identity comparison it has. -/
theorem C19_every_key_has_field_witness :
    let doc : JVal := .list [.dict [(['x'], .dict [(['p'], .dict [(['q'], .int 1)])])], .dict [(['x'], .int 5)],
                             .dict [(['x'], .dict [(['p'], .dict [(['r'], .int 1)])])]]
    ((gsModule plainStd { dedupByEq := true } doc).map (fun m => m.classes.any (fun c => c.fields.any (fun f => f.1 == ['r'])))
        = some false) ∧
    ((gsModule plainStd { dedupByEq := false } doc).map (fun m => m.classes.any (fun c => c.fields.any (fun f => f.1 == ['r'])))
        = some true) := by decide +kernel

/-- `{"k": [{"a": [{"p": 1}]}, {"a": [null]}]}`: since repair c45a418 `PyListGenerator.__or__` carries the right operand's
`is_optional` over, so the null element of the second sibling's list gives `a: List[Optional['A']]` (before the repair
it was `List['A']`, which cannot load the second sibling). -/
theorem C19_null_element_repaired :
    (gsModule plainStd {} (.dict [(['k'], .list [.dict [(['a'], .list [.dict [(['p'], .int 1)]])],
                                               .dict [(['a'], .list [.null])]])])).map (ModuleAst.summary false) =
      some [("Data".toList, [(['k'], "List['K']".toList)]), (['K'], [(['a'], "List[Optional['A']]".toList)]),
            (['A'], [(['p'], "int".toList)])] := by decide +kernel

/-- `{"a": {"x": {"p": 1}}, "b": {"x": {"q": 1}}}`: the same key at two paths gives two classes named `X`; the module
is not `NamesOK`, and the name resolves to the later class, which lacks the field `p` of the first. -/
theorem C19_duplicate_class_witness :
    let doc : JVal := .dict [(['a'], .dict [(['x'], .dict [(['p'], .int 1)])]), (['b'], .dict [(['x'], .dict [(['q'], .int 1)])])]
    (gsModule plainStd {} doc).map NamesOK = some false ∧
    (gsModule plainStd {} doc).map (fun m => (m.resolve ['X']).map (fun c => c.fields.map (·.1))) = some (some [['q']]) ∧
    (gsModule plainStd {} doc).map (fun m => m.classNames) = some ["Data".toList, ['A'], ['X'], ['B'], ['X']] := by decide +kernel

/-- keys that are a keyword, start with a digit, contain punctuation or are empty give field names that are not
identifiers (the module is not `NamesOK`); a key whose class name is an imported name shadows the import. -/
theorem C19_key_not_identifier_witness :
    (gsModule plainStd {} (.dict [("class".toList, .int 1)])).map NamesOK = some false ∧
    (gsModule plainStd {} (.dict [("1st".toList, .int 1)])).map NamesOK = some false ∧
    (gsModule plainStd {} (.dict [("a.b".toList, .int 1)])).map NamesOK = some false ∧
    (gsModule plainStd {} (.dict [([], .int 1)])).map NamesOK = some false ∧
    (gsModule plainStd {} (.dict [("list".toList, .dict [])])).map NamesOK = some false ∧
    (gsModule plainStd {} (.dict [("ok_key".toList, .int 1)])).map NamesOK = some true := by decide +kernel

/-- On input that is not an object / array document the command exits non-zero and leaves a pre-existing output
file intact — for the variant that opens the output only when there is code to write. -/
theorem C19_error_path (inp : CliInput) (out0 : OutFile) (h : inp.isValid = false) :
    (cliRun false inp out0).exit ≠ 0 ∧ (cliRun false inp out0).out = out0 := by
  cases inp <;> simp [cliRun, CliInput.isValid] at h ⊢

/-- The unchanged code (argparse opens the output with mode `w` while parsing the arguments): a syntax error or a
scalar root still exits non-zero but the existing output file is emptied. -/
theorem C19_error_path_witness :
    (cliRun true .syntaxError (some "x = 1\n".toList)).exit ≠ 0 ∧
    (cliRun true .syntaxError (some "x = 1\n".toList)).out ≠ some "x = 1\n".toList ∧
    (cliRun true .scalarRoot (some "x = 1\n".toList)).out = some [] := by decide

/-- The unchanged code, partial: the exit status is non-zero on every invalid input, and an unreadable input file
(rejected before the output argument is converted) leaves the output intact. -/
theorem C19_error_path_partial (inp : CliInput) (out0 : OutFile) (h : inp.isValid = false) :
    (cliRun true inp out0).exit ≠ 0 ∧ (inp = .unreadable → (cliRun true inp out0).out = out0) := by
  cases inp <;> simp [cliRun, CliInput.isValid] at h ⊢

end DW.Props.C19
