/-
C11 — dump omits exactly the fields selected by skip rules, exclude and dump=False.
-/
import DW.Generated.Tables
import DW.Lemmas.GenDumpRefine
import DW.Lemmas.Post

namespace DW.Props.C11
open DW

/-- the operator table of `Condition.evaluate` in the source is the documented one, and every builder maps to
its operator (tables regenerated from the source on every run) -/
theorem C11_operator_table :
    Generated.conditionEvaluate =
      [("==", "a == b"), ("!=", "a != b"), ("<", "a < b"), ("<=", "a <= b"), (">", "a > b"), (">=", "a >= b"),
       ("is", "a is b"), ("is not", "a is not b"), ("+", "True if a else False"), ("!", "not a")]
    ∧ Generated.conditionBuilders =
      [("EQ", "==", "false"), ("NE", "!=", "false"), ("LT", "<", "false"), ("LE", "<=", "false"), ("GT", ">", "false"),
       ("GE", ">=", "false"), ("IS", "is", "false"), ("IS_NOT", "is not", "false"), ("IS_TRUTHY", "+", "true"),
       ("IS_FALSY", "!", "true")] :=
  ⟨rfl, rfl⟩

/-- reference value of a test that may raise: what it returns when it returns -/
def defaultTestRef (eff : MetaCfg) (fi : FieldInfo) (v : PyVal) : Bool :=
  match fi.dflt with
  | none => false
  | some d => match eff.skipDefaultsIf with
    | some c => (evalCond c v).getD false
    | none => pyEqDflt v d

/-- the condition that applies to a field: its own SkipIf, or else Meta.skip_if -/
def ownCondRef (eff : MetaCfg) (fi : FieldInfo) (v : PyVal) : Bool :=
  match fi.skipIf with
  | some c => (evalCond c v).getD false
  | none => match eff.skipIf with
    | some c => (evalCond c v).getD false
    | none => false

/-- Reference selection, stated outright: a field is omitted iff it is named in `exclude`, or declared
dump=False, or (skip_defaults in force — the argument winning over Meta —, the field has a default, and its value
satisfies Meta.skip_defaults_if, or equals the default when there is no such condition), or its value satisfies its
own SkipIf condition or else Meta.skip_if. -/
def refOmitted (eff : MetaCfg) (args : DumpArgs) (fi : FieldInfo) (v : PyVal) : Bool :=
  excluded args fi || fi.dumpSkip || (skipDefaultsOn eff args && defaultTestRef eff fi v) || ownCondRef eff fi v

theorem C11_argument_wins (eff : MetaCfg) (e : Option (List S)) (b : Bool) :
    skipDefaultsOn eff { exclude := e, skipDefaults := some b } = b := rfl

theorem evalCondE_ok (c : Cond) (v : PyVal) : Post (evalCondE c v) (fun b => b = (evalCond c v).getD false) := by
  unfold evalCondE
  split
  · next b hb => exact .pure (by rw [hb]; rfl)
  · exact .error

theorem defaultTest_ok (eff : MetaCfg) (fi : FieldInfo) (v : PyVal) :
    Post (defaultTest eff fi v) (fun b => b = defaultTestRef eff fi v) := by
  unfold defaultTest defaultTestRef
  cases fi.dflt with
  | none => exact .pure rfl
  | some d =>
    cases eff.skipDefaultsIf with
    | some c => exact evalCondE_ok c v
    | none => exact .pure rfl

theorem ownCond_ok (eff : MetaCfg) (fi : FieldInfo) (v : PyVal) : Post (ownCond eff fi v) (fun b => b = ownCondRef eff fi v) := by
  unfold ownCond ownCondRef
  cases fi.skipIf with
  | some c => exact evalCondE_ok c v
  | none =>
    cases eff.skipIf with
    | some c => exact evalCondE_ok c v
    | none => exact .pure rfl

/-- a test that returns on every field returns its reference value there -/
theorem returns_ref {t : FieldInfo → PyVal → Except DErr Bool} {ref : FieldInfo → PyVal → Bool}
    (hp : ∀ fi v, Post (t fi v) (· = ref fi v)) {fks : List (FieldInfo × S)} {vals : S → PyVal}
    (h : ∀ q ∈ fks, ∃ b, t q.1 (vals q.1.name) = .ok b) : ∀ q ∈ fks, t q.1 (vals q.1.name) = .ok (ref q.1 (vals q.1.name)) := by
  intro q hq
  obtain ⟨b, hb⟩ := h q hq
  rw [hb, hp _ _ b hb]

/-- Whenever the bookkeeping of the dump model (`fieldSkipped`) returns (no comparison raised), it omits exactly the fields of the
reference selection. -/
theorem C11_selection (eff : MetaCfg) (args : DumpArgs) (fi : FieldInfo) (v : PyVal) (b : Bool)
    (h : fieldSkipped eff args fi v = .ok b) : b = refOmitted eff args fi v := by
  revert b
  show Post (fieldSkipped eff args fi v) (fun b => b = refOmitted eff args fi v)
  unfold fieldSkipped refOmitted
  refine .ite (fun hex => .pure (by rw [hex]; rfl)) fun hex => ?_
  rw [Bool.not_eq_true] at hex
  rw [hex, Bool.false_or]
  have tail : ∀ bydef, Post (if fi.dumpSkip then pure true else if bydef then pure true else ownCond eff fi v)
      (fun b => b = (fi.dumpSkip || bydef || ownCondRef eff fi v)) := by
    intro bydef
    cases fi.dumpSkip
    · cases bydef
      · exact ownCond_ok eff fi v
      · exact .pure rfl
    · exact .pure rfl
  cases skipDefaultsOn eff args
  · exact tail false
  · exact .bind (defaultTest_ok eff fi v) fun bydef hby => by rw [Bool.true_and, ← hby]; exact tail bydef

/-- operators select exactly the values for which the Python operator is true: e.g. EQ is `==`, NE its negation,
and the two truthiness tests are complementary for every value -/
theorem C11_eq_ne_complement (l : Lit) (v : PyVal) :
    evalCond ⟨.ne, l⟩ v = (evalCond ⟨.eq, l⟩ v).map (!·) := by simp [evalCond]

theorem C11_truthy_falsy_complement (l : Lit) (v : PyVal) :
    evalCond ⟨.falsy, l⟩ v = (evalCond ⟨.truthy, l⟩ v).map (!·) := by simp [evalCond]

/-- a NaN comparison value equals nothing and orders nothing (no NameError, no accidental match) -/
theorem C11_nan_selects_nothing (v : PyVal) :
    evalCond ⟨.eq, .float .nan⟩ v = some false := by
  cases v <;> simp [evalCond, pyEqLit, PyVal.num?, Lit.num?, NumV.cmp]
  case float f => cases f <;> simp

/-- the `FieldInfo` the generated dumper uses for the attribute `n` -/
def fiOf (ci : ClassInfo) (n : S) : FieldInfo := (ci.fields.find? (fun f => f.name == n)).getD { name := n }

/-- the key a kept field is written under -/
def keyOf (eff : MetaCfg) (fi : FieldInfo) : S :=
  match dumpKey eff fi with
  | .ok k => k
  | .error _ => []

/-- **C11 (whole class).** For any class without a catch-all field, any effective Meta, any `exclude=` / `skip_defaults=`
arguments and any instance: whenever the dump returns, the keys of the dumped dict are exactly — and in declaration
order — the dump keys of the fields that the reference selection does *not* omit. -/
theorem C11_dump_keys_exact (std : Std) (ts : Bool) (cfg : Option MetaCfg) (eff : MetaCfg) (args : DumpArgs) (ci : ClassInfo) :
    ∀ (fs : List (S × PyVal)) (body : List (DVal × DVal)), (∀ p ∈ fs, (fiOf ci p.1).isCatchAll = false) →
      dumpFields std ts cfg eff args ci fs = .ok body →
      body.map (·.1) = (fs.filter (fun p => !refOmitted eff args (fiOf ci p.1) p.2)).map (fun p => DVal.str (keyOf eff (fiOf ci p.1))) := by
  intro fs
  induction fs with
  | nil =>
    intro body _ h
    rw [dumpFields_nil] at h; cases h; rfl
  | cons nv rest ih =>
    obtain ⟨n, v⟩ := nv
    intro body hca h
    obtain ⟨here, hhere, more, hmore, rfl⟩ := dumpFields_cons_ok.mp h
    have ih := ih more (fun p hp => hca p (by simp [hp])) hmore
    -- `fiOf ci n` unfolds to `ci.fieldNamed n`, the description `dumpFields_cons` speaks of
    have hplain : (ci.fieldNamed n).isCatchAll = false := hca (n, v) (by simp)
    rw [List.filter_cons, List.map_append, ih]
    rcases fieldHere_plain_ok hplain hhere with ⟨hsk, rfl⟩ | ⟨hsk, k, hk, d, _, rfl⟩
    · rw [← C11_selection eff args (fiOf ci n) v true hsk]
      rfl
    · have hkey : keyOf eff (fiOf ci n) = k := by simp [keyOf, fiOf, hk]
      rw [← C11_selection eff args (fiOf ci n) v false hsk]
      simp [hkey]

/-! ### the generated code itself

The theorems above are about the dump *model* (`dumpFields`: a hand transcription of what the generated `cls_asdict` computes).
The theorems below close that gap for the selection: they are about the **text the generator writes** — `genBody` of
`DW/Model/GenDump.lean`, which the correspondence check compares byte for byte with the library's generated source on every
run — interpreted by `DW/Model/GenDumpSem.lean`. -/

open DW.GenDump in
/-- the reference selection, as emissions: a non-catch-all field is written under its key unless `refOmitted`; the
catch-all field re-emits its items unless it is excluded, skipped as a default, or holds its default (field by field it is
`GenDump.refEmitOf` at `defaultTestRef` / `ownCondRef`) -/
def refSelection (eff : MetaCfg) (args : DumpArgs) (vals : S → PyVal) (fks : List (FieldInfo × S)) : List Emit :=
  fks.flatMap (fun q =>
    if q.1.isCatchAll then
      if isDefaultVal q.1 (vals q.1.name) || excluded args q.1 ||
          (skipDefaultsOn eff args && defaultTestRef eff q.1 (vals q.1.name)) then []
      else [.catchAll q.1.name]
    else if refOmitted eff args q.1 (vals q.1.name) then [] else [.entry q.2 q.1.name])

open DW.GenDump in
/-- **C11 (the generated code selects exactly the reference fields).**  Take any class (`fks`: its fields with their resolved
dump keys), any effective Meta, any `exclude=` / `skip_defaults=` arguments and any instance (`vals`), and let `ρ` be the call
environment (`World`: `o.<f>` holds `vals f`, the arguments as passed, a closure with at least what `dump_func_for_dataclass` binds).
If no comparison raises on this instance, then *running the body the generator writes for the class* yields exactly the
reference selection — every non-omitted field once, under its key, in declaration order, the catch-all items, then the tag
entry — and never hits a statement form the interpreter does not know. -/
theorem C11_generated_code_selects (p : Char → Bool) (ρ : Env) (eff : MetaCfg) (args : DumpArgs)
    (fks : List (FieldInfo × S)) (vals : S → PyVal) (W : World p eff args fks vals ρ)
    (Hd : ∀ q ∈ fks, ∃ b, defaultTest eff q.1 (vals q.1.name) = .ok b)
    (Ho : ∀ q ∈ fks, ∃ b, ownCond eff q.1 (vals q.1.name) = .ok b) :
    run ρ (genBody p (ginOf eff fks)) = .ok (refSelection eff args vals fks ++ tagEmits (ginOf eff fks)) := by
  rw [run_genBody_ok p ρ eff args fks vals W (fun fi => defaultTestRef eff fi (vals fi.name))
    (fun fi => ownCondRef eff fi (vals fi.name)) (returns_ref (defaultTest_ok eff) Hd) (returns_ref (ownCond_ok eff) Ho)]
  unfold refSelection
  refine congrArg (fun f => Except.ok (List.flatMap f fks ++ tagEmits (ginOf eff fks))) ?_
  funext q
  unfold refEmitOf refFieldEmit refOmitted
  cases q.1.isCatchAll
  · cases q.1.dumpSkip <;> cases excluded args q.1 <;> rfl
  · rw [if_pos rfl, if_pos rfl, Bool.or_assoc]

open DW.GenDump in
/-- … and the environment is not an assumption: for the call environment built from the class itself (`envOf`: the instance's
attributes, the arguments as passed, and a closure holding at least what the generator's `_locals[...] = …` assignments store —
`_default_<i>`, `_skip_if_<i>`, `_skip_value`, `_skip_defaults_value`; names the generator leaves unbound are never read) the
statement holds outright. -/
theorem C11_generated_code_selects_env (p : Char → Bool) (eff : MetaCfg) (args : DumpArgs)
    (fks : List (FieldInfo × S)) (vals : S → PyVal)
    (Hd : ∀ q ∈ fks, ∃ b, defaultTest eff q.1 (vals q.1.name) = .ok b)
    (Ho : ∀ q ∈ fks, ∃ b, ownCond eff q.1 (vals q.1.name) = .ok b) :
    run (envOf eff args fks vals) (genBody p (ginOf eff fks)) =
      .ok (refSelection eff args vals fks ++ tagEmits (ginOf eff fks)) :=
  C11_generated_code_selects p _ eff args fks vals (world_envOf p eff args fks vals) Hd Ho

open DW.GenDump in
/-- **The dump model is the generated code.**  The behavioural field loop `dumpFields` — the definition the round-trip (C01, C02),
wire-encoding / JSON-safety (C03), catch-all (C10) and tagged-union (C13) theorems are about — is not only a transcription: for
any class (fields found by name, resolved dump keys `k`), Meta, arguments and instance whose skip comparisons do not raise, it
returns exactly what one gets by running the body the generator writes (the text compared byte for byte with the library's
output) and applying `asdict` to the entries that run emits, in order. -/
theorem C11_dump_model_realises_generated_code (p : Char → Bool) (std : Std) (ts : Bool) (cfg : Option MetaCfg)
    (eff : MetaCfg) (args : DumpArgs) (ci : ClassInfo) (fks : List (FieldInfo × S)) (vals : S → PyVal)
    (hfind : ∀ q ∈ fks, ci.fields.find? (fun f => f.name == q.1.name) = some q.1)
    (Hd : ∀ q ∈ fks, ∃ b, defaultTest eff q.1 (vals q.1.name) = .ok b)
    (Ho : ∀ q ∈ fks, ∃ b, ownCond eff q.1 (vals q.1.name) = .ok b)
    (Hk : ∀ q ∈ fks, q.1.isCatchAll = false → q.1.dumpSkip = false → dumpKey eff q.1 = .ok q.2) :
    ∃ out, run (envOf eff args fks vals) (genBody p (ginOf eff fks)) = .ok (out ++ tagEmits (ginOf eff fks)) ∧
      dumpFields std ts cfg eff args ci (fks.map (fun q => (q.1.name, vals q.1.name))) = realise std ts cfg vals out := by
  have Hd' := returns_ref (defaultTest_ok eff) Hd
  have Ho' := returns_ref (ownCond_ok eff) Ho
  exact ⟨fks.flatMap (refEmitOf eff args (fun fi => defaultTestRef eff fi (vals fi.name))
      (fun fi => ownCondRef eff fi (vals fi.name)) vals),
    run_genBody_ok p _ eff args fks vals (world_envOf p eff args fks vals) _ _ Hd' Ho',
    dumpFields_eq_realise std ts cfg eff args ci vals _ _ fks hfind Hd' Ho' Hk⟩

open DW.GenDump in
/-- **C11 (the generated code, every instance).**  Without any assumption about the comparisons: for every class of the class model
(`ginOf`: every field dumped under a key or not at all — no JSON-path keys, no `_pre_dict` hook), Meta, call arguments and
instance, running the body the generator writes in the environment the generator sets up gives exactly the reference run
`refRun` — the skip-defaults tests of all non-excluded defaulted fields first, in field order (the call raises at the first one
that raises), then field by field the field's own `SkipIf` or else `Meta.skip_if` unless the field is already skipped (again raising
where the comparison raises), the catch-all items, and the tag entry.  In particular a comparison is evaluated exactly when Python
evaluates it (`or` / `and` short-circuit), and a comparison that raises makes `to_dict` raise rather than select or drop the field. -/
theorem C11_generated_code_total (p : Char → Bool) (eff : MetaCfg) (args : DumpArgs) (fks : List (FieldInfo × S)) (vals : S → PyVal) :
    run (envOf eff args fks vals) (genBody p (ginOf eff fks)) = refRun eff args vals fks :=
  run_genBody_total p _ eff args fks vals (world_envOf p eff args fks vals)

open DW.GenDump in
/-- … and the interpreter is complete for the generator on these classes: the body generated for any of them, run on any instance
with any arguments, never reaches a statement or expression form outside `DW/Model/GenDumpSem.lean` — every failing run is a
Python exception of a comparison (`SErr.raised`). -/
theorem C11_generated_code_never_stuck (p : Char → Bool) (eff : MetaCfg) (args : DumpArgs) (fks : List (FieldInfo × S))
    (vals : S → PyVal) : run (envOf eff args fks vals) (genBody p (ginOf eff fks)) ≠ .error .stuck := by
  rw [C11_generated_code_total]
  exact refRun_not_stuck eff args vals fks

namespace Example
open DW.GenDump

/-- a concrete class: a plain field with a default, a field with its own SkipIf, a defaulted catch-all -/
def fks : List (FieldInfo × S) :=
  [({ name := "x".toList, dflt := some (.lit (.int 1)) }, "x".toList),
   ({ name := "y".toList, skipIf := some ⟨.lt, .int 3⟩ }, "y".toList),
   ({ name := "extra".toList, dflt := some (.lit .none), isCatchAll := true }, [])]

def eff : MetaCfg := { skipDefaultsIf := some ⟨.is_, .none⟩, tag := some "T".toList }

def vals : S → PyVal := fun n =>
  if n = "x".toList then .none else if n = "y".toList then .int 5 else .map .dict [(.str "u".toList, .int 1)]

def env : Env :=
  { field := fun n => some (vals n), exclude := none, skipDefaults := true,
    closure := fun n => if n = defaultName 0 then some (.dflt (.lit (.int 1)))
                        else if n = defaultName 2 then some (.dflt (.lit .none)) else none }

/-- non-vacuity: what the generated body emits for this class, instance and call (`x` is None and skipped by
`skip_defaults_if = IS(None)`, `y` = 5 is kept by its own `LT(3)`, the catch-all items and the tag follow) -/
example : (match run env (genBody (fun _ => true) (ginOf eff fks)) with
    | .ok out => decide (out = [.entry "y".toList "y".toList, .catchAll "extra".toList, .tag "__tag__".toList "T".toList])
    | .error _ => false) = true := by
  decide +kernel

/-- … and the environment meets the hypotheses of `C11_generated_code_selects` -/
example : World (fun _ => true) eff {} fks vals env where
  field := fun _ => rfl
  exclude := rfl
  skipDefaults := by decide
  dflt := by
    intro i fi k d hi hd
    rcases i with _ | _ | _ | n
    · cases hi; cases hd; decide
    · cases hi; cases hd
    · cases hi; cases hd; decide
    · cases hi
  skipIf := by
    intro i fi k c hi hc hb
    rcases i with _ | _ | _ | n
    · cases hi; cases hc
    · cases hi; cases hc; revert hb; decide
    · cases hi; cases hc
    · cases hi
  skipValue := by intro c hc; cases hc
  skipDefaultsValue := by
    intro c hc hb
    cases hc; revert hb; decide

end Example

end DW.Props.C11
