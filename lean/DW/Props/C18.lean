/-
C18 — EnvWizard resolves fields by the documented precedence; os.environ stays untouched.
Property theorems only; the model and the definitions used in the statements (`Reach`, `Reachable`, `CleanInj`,
`FieldOK`) are in DW/Model/C18.lean (`DW.Env`), helper lemmas and the witness data in DW/Lemmas/C18.lean.
-/
import DW.Generated.Tables
import DW.Model.C18
import DW.Lemmas.C18

namespace DW.Props.C18
open DW.Env DW.Str

/-- The `LetterCasePriority` members of the source dispatch to the three lookup functions the model's `tiers`
transcribe (regenerated from /repo on every run). -/
theorem C18_priority_table :
    Generated.letterCasePriority =
      [("SCREAMING_SNAKE", "SCREAMING_SNAKE", "with_screaming_snake_case"), ("SNAKE", "SNAKE", "with_snake_case"),
       ("CAMEL", "CAMEL", "with_pascal_or_camel_case"), ("PASCAL", "PASCAL", "with_pascal_or_camel_case")] := rfl

/-- No operation of the library writes the process environment: a step changes `os` only when it IS the user's own
`os.environ[k] = v` / `os.environ.pop(k)` (every quirk setting). -/
theorem C18_os_environ_untouched (q : Quirks) (w : World) (op : Op) :
    (step q w op).1.os = match op with
      | .setOs k v => dset k v w.os
      | .delOs k => ddel k w.os
      | _ => w.os := by
  cases op <;> rfl

/-- Along a whole history the process environment is what the user's own edits make it. -/
theorem C18_os_environ_history (q : Quirks) (ops : List Op) :
    ∀ w : World, (run q w ops).os = ops.foldl (fun os op => match op with
      | .setOs k v => dset k v os
      | .delOs k => ddel k os
      | _ => os) w.os := by
  induction ops with
  | nil => intro w; rfl
  | cons op r ih =>
    intro w
    simp only [run, List.foldl_cons]
    rw [ih, C18_os_environ_untouched]

/-- C18, full strength, for the documented behaviour (`Quirks.clean`): in EVERY reachable state of the process-wide
cache — any history of environment edits, `Env.reload()` calls and instantiations of any classes with any overlays,
any set-iteration orders — instantiating with `_reload=True` conforms to `refResolve`: keyword argument, else first
present explicit name (prefixed), else the letter-case tiers then ANY variable with the same cleaned key, else the
default; MissingVars exactly when some field has no source; never a KeyError. -/
theorem C18_resolve {w : World} (hw : Reach Quirks.clean w) (c : ClassDef) (a : InstArgs) (hr : a.reload = true) :
    (instantiate Quirks.clean w.os c a w.env).1.meets (refResolve w.os c a) = true :=
  instantiate_meets (U := []) (fun h => by simp [Quirks.clean] at h) (hw.reachable rfl) c a hr
    (fun f _ => fieldOK_clean _ _ _ _ _ f)

/-- C18 for the code as it is, any quirk setting: the same conclusion under one decidable hypothesis per switched-on
quirk — F1 (stale cache): every variable name ever in play (environment, overlays) comes from a list `U` on which
`clean` is injective, i.e. two spellings of one cleaned key never meet; F2: no field has two or more explicit names
while a prefix is in force; F3: a field with an explicit mapping gets a keyword, or one of its names is present, or
the letter-case lookup would find nothing anyway (`FieldOK`). -/
theorem C18_resolve_partial {q : Quirks} {U : List S} {w : World}
    (hinj : q.staleCleaned = true → CleanInj U) (hw : Reachable q U w)
    (c : ClassDef) (a : InstArgs) (hr : a.reload = true)
    (hok : ∀ f ∈ c.fields, FieldOK q (refLookup w.os (effSecrets c a) (effDotenv c a))
      (refNames w.os (effSecrets c a) (effDotenv c a)) c.prio (effPrefix c a) a.kw f) :
    (instantiate q w.os c a w.env).1.meets (refResolve w.os c a) = true :=
  instantiate_meets hinj hw c a hr hok

/-- the hypotheses of the partial theorem are decidable and satisfiable: a name universe with one spelling per key,
and the witness field of F1 (no explicit mapping) is `FieldOK` under the shipped quirks -/
example : CleanInj ["MY_VAR".toList, "APP_HOST".toList, "other".toList] ∧ ¬ CleanInj ["MY_VAR".toList, "my_var".toList]
    ∧ FieldOK Quirks.shipped (fun n => dget n wOs) (keys wOs) .screamingSnake [] [] wField := by
  decide +kernel

/-- F1 witness (key `stale-cleaned-to-env-evicts-surviving-spelling`): `my_var` set, field `myVar`; instantiate; set
MY_VAR; instantiate; delete MY_VAR; instantiate with `_reload=True`: the shipped machine drops the cache entry with
MY_VAR, never re-adds the surviving `my_var`, and gives the default although `my_var` has the field's cleaned key `myvar` — the
documented machine finds it through the cleaned-key cache. -/
theorem C18_stale_cache_witness :
    (instantiate Quirks.shipped (run Quirks.shipped { os := wOs } wOps).os wClass wArgs
        (run Quirks.shipped { os := wOs } wOps).env).1 = .ok [("myVar".toList, .dflt)]
    ∧ refResolve (run Quirks.shipped { os := wOs } wOps).os wClass wArgs = [("myVar".toList, .oneOf ["lower".toList])]
    ∧ (instantiate Quirks.clean (run Quirks.clean { os := wOs } wOps).os wClass wArgs
        (run Quirks.clean { os := wOs } wOps).env).1 = .ok [("myVar".toList, .val "lower".toList)] := by
  decide +kernel

/-- F2 witness (key `explicit-multi-name-with-prefix`): prefix `P_`, explicit names (A, B), P_A and P_B set: the
shipped machine looks up the single bogus name `P_('A', 'B')` and falls to the default; the reference demands P_A. -/
theorem C18_multi_explicit_prefix_witness :
    (instantiate Quirks.shipped wOsMulti wClassMulti wArgs {}).1 = .ok [("x".toList, .dflt)]
    ∧ refResolve wOsMulti wClassMulti wArgs = [("x".toList, .oneOf ["pa".toList])]
    ∧ (instantiate Quirks.clean wOsMulti wClassMulti wArgs {}).1 = .ok [("x".toList, .val "pa".toList)] := by
  decide +kernel

/-- F3 witness (key `explicit-mapping-no-case-fallback`): field `a` mapped to the absent NOPE while A is set: the
shipped machine never tries the letter-case lookup; the statement's precedence reaches A. -/
theorem C18_explicit_no_fallback_witness :
    (instantiate Quirks.shipped wOsNoFall wClassNoFall wArgs {}).1 = .ok [("a".toList, .dflt)]
    ∧ refResolve wOsNoFall wClassNoFall wArgs = [("a".toList, .oneOf ["a".toList])]
    ∧ (instantiate Quirks.clean wOsNoFall wClassNoFall wArgs {}).1 = .ok [("a".toList, .val "a".toList)] := by
  decide +kernel

/-- Overlays: after the preparation phase of a `_reload=True` instantiation — from ANY prior state, any quirks — the
library's `environ` maps every name exactly as the reference does: dotenv files over secrets directories over the
process environment (`refLookup`), each stack resolved by `layersGet`. -/
theorem C18_overlay_order (q : Quirks) (os : Dict) (c : ClassDef) (a : InstArgs) (st : EnvSt) (hr : a.reload = true) :
    ∃ e, (prepare q os c a st).environ = some e ∧
      ∀ n, dget n e = (layersGet (effDotenv c a) n).or ((layersGet (effSecrets c a) n).or (dget n os)) := by
  obtain ⟨e, he, hl⟩ := prepare_environ q os c a st
  simp only [seenEnv, hr, ↓reduceIte] at hl
  exact ⟨e, he, fun n => by rw [hl, refLookup_eq]⟩

/-- ... and within a stack a later file overrides an earlier one (and a later line of a file an earlier line). -/
theorem C18_later_file_wins (fs : List Dict) (f : Dict) (n : S) :
    layersGet (fs ++ [f]) n = (dgetLast n f).or (layersGet fs n) :=
  layersGet_append_singleton fs f n

/-- All missing fields at once: in every reachable state, if the reference leaves at least one field without a
source, the `_reload=True` instantiation raises MissingVars naming EXACTLY all such fields (in field order), and
otherwise it returns an instance. -/
theorem C18_missing_all_at_once {w : World} (hw : Reach Quirks.clean w) (c : ClassDef) (a : InstArgs)
    (hr : a.reload = true) :
    (refMissing (refResolve w.os c a) ≠ [] →
        (instantiate Quirks.clean w.os c a w.env).1 = .missing (refMissing (refResolve w.os c a)))
    ∧ (refMissing (refResolve w.os c a) = [] → ∃ rs, (instantiate Quirks.clean w.os c a w.env).1 = .ok rs) := by
  obtain ⟨h1, h2⟩ := outcome_meets_missing (C18_resolve hw c a hr)
  exact ⟨h1, fun h => let ⟨rs, e, _⟩ := h2 h; ⟨rs, e⟩⟩

/-- the same for the code as it is, under the hypotheses of `C18_resolve_partial` -/
theorem C18_missing_all_at_once_partial {q : Quirks} {U : List S} {w : World}
    (hinj : q.staleCleaned = true → CleanInj U) (hw : Reachable q U w)
    (c : ClassDef) (a : InstArgs) (hr : a.reload = true)
    (hok : ∀ f ∈ c.fields, FieldOK q (refLookup w.os (effSecrets c a) (effDotenv c a))
      (refNames w.os (effSecrets c a) (effDotenv c a)) c.prio (effPrefix c a) a.kw f) :
    refMissing (refResolve w.os c a) ≠ [] →
      (instantiate q w.os c a w.env).1 = .missing (refMissing (refResolve w.os c a)) :=
  (outcome_meets_missing (C18_resolve_partial hinj hw c a hr hok)).1

end DW.Props.C18
