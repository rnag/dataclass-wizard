/-
C10 — unknown keys are ignored, rejected or captured exactly as configured.
The default engine's key loop `loadKeysWith` (`for json_key in o:`), the v1 class function's `len(o) != i` test, and the write-back of
the captured pairs by `to_dict` (on the dump model and on the generated code).
-/
import DW.Model.Load
import DW.Model.LoadV1
import DW.Model.Dump
import DW.Lemmas.V1
import DW.Lemmas.KeyLoop
import DW.Lemmas.GenDumpSem

namespace DW.Props.C10
open DW

/-- a key that maps to no field (after aliases, exact name and the case-normalising lookup) and is not the
whitelisted tag key -/
def IsUnknown (eff : MetaCfg) (ci : ClassInfo) (k : S) : Prop := resolveKey eff ci k = .ok .unknown

instance (eff : MetaCfg) (ci : ClassInfo) (k : S) : Decidable (IsUnknown eff ci k) := by
  unfold IsUnknown
  cases h : resolveKey eff ci k with
  | error e => exact isFalse (by simp)
  | ok r => cases r with
    | unknown => exact isTrue rfl
    | field f => exact isFalse (by simp)
    | ignored => exact isFalse (by simp)

def isTagKey (eff : MetaCfg) (k : S) : Bool := eff.tag.isSome && k == eff.tagKey.getD Generated.tagKey.toList

theorem keyStep_unknown (fl : S → JVal → LRes) (eff : MetaCfg) (ci : ClassInfo) (k : S) (v : JVal) (hu : IsUnknown eff ci k) :
    KeyLoop.keyStep fl eff ci k v =
      if eff.raiseOnUnknown.getD false then .error (.unknownKeys ci.name [k])
      else .ok ([], if isTagKey eff k then [] else [(.str k, v.toPy)]) := by
  rw [KeyLoop.keyStep, show resolveKey eff ci k = .ok .unknown from hu]
  rfl

theorem keyStep_known (fl : S → JVal → LRes) (eff : MetaCfg) (ci : ClassInfo) (k : S) (v : JVal) (hn : ¬ IsUnknown eff ci k)
    (here : List (S × PyVal) × List (PyVal × PyVal)) (h : KeyLoop.keyStep fl eff ci k v = .ok here) : here.2 = [] := by
  obtain ⟨res, hres, h⟩ := Except.bind_eq_ok.mp h
  cases res with
  | unknown => exact absurd hres hn
  | ignored => cases h; rfl
  | field f =>
    obtain ⟨y, _, h⟩ := Except.bind_eq_ok.mp h
    cases h; rfl

theorem resolveKey_ne_unknownKeys (eff : MetaCfg) (ci : ClassInfo) (k c : S) (ks : List S) :
    resolveKey eff ci k ≠ .error (.unknownKeys c ks) := by
  intro hk
  simp only [resolveKey] at hk
  -- every branch returns a resolution or raises `IndexError`
  repeat' split at hk
  all_goals cases hk

theorem keyStep_unknownKeys (fl : S → JVal → LRes) (eff : MetaCfg) (ci : ClassInfo) (k : S) (v : JVal) (c : S) (ks : List S)
    (h : KeyLoop.keyStep fl eff ci k v = .error (.unknownKeys c ks)) (hfl : ∀ f v c' ks', fl f v ≠ .error (.unknownKeys c' ks')) :
    c = ci.name ∧ ks = [k] ∧ IsUnknown eff ci k := by
  rcases Except.bind_eq_error.mp h with h | ⟨res, hres, h⟩
  · exact absurd h (resolveKey_ne_unknownKeys eff ci k c ks)
  · cases res with
    | ignored => cases h
    | unknown =>
      dsimp only at h
      split at h
      · cases h; exact ⟨rfl, rfl, hres⟩
      · cases h
    | field f =>
      rcases Except.bind_eq_error.mp h with h | ⟨_, _, h⟩
      · -- the field loader's error, re-attributed, is not an `UnknownKeysError`
        cases hfv : fl f v with
        | ok y => rw [hfv] at h; cases h
        | error e' =>
          rw [hfv] at h
          cases e' <;> cases h
          exact absurd hfv (hfl f v _ _)
      · cases h

/-- RAISE: the first unknown key (in document order) is reported, with the class, provided the fields before it
loaded; documents are never accepted while they contain an unknown key. -/
theorem C10_raise_rejects (fl : S → JVal → LRes) (eff : MetaCfg) (ci : ClassInfo) (kvs : List (S × JVal))
    (hr : eff.raiseOnUnknown.getD false = true) (hu : ∃ kv ∈ kvs, IsUnknown eff ci kv.1) :
    ∀ res, loadKeysWith fl eff ci kvs ≠ .ok res := by
  induction kvs with
  | nil => simp at hu
  | cons kv r ih =>
    obtain ⟨k, v⟩ := kv
    rintro ⟨kw, ca⟩ h
    obtain ⟨here, hhere, more, hmore, _, _⟩ := KeyLoop.loadKeysWith_cons_ok.mp h
    obtain ⟨kv', hm, hkv⟩ := hu
    rcases List.mem_cons.mp hm with rfl | hm
    · rw [keyStep_unknown fl eff ci _ _ hkv, hr] at hhere
      cases hhere
    · exact ih ⟨kv', hm, hkv⟩ more hmore

/-- when RAISE reports, it names a key of the document that is unknown, and the class being loaded -/
theorem C10_raise_names_unknown_key (fl : S → JVal → LRes) (eff : MetaCfg) (ci : ClassInfo) (kvs : List (S × JVal))
    (c : S) (ks : List S) (h : loadKeysWith fl eff ci kvs = .error (.unknownKeys c ks))
    (hfl : ∀ f v c' ks', fl f v ≠ .error (.unknownKeys c' ks')) :
    c = ci.name ∧ ∃ k, ks = [k] ∧ (∃ v, (k, v) ∈ kvs) ∧ IsUnknown eff ci k := by
  induction kvs with
  | nil => rw [loadKeysWith] at h; cases h
  | cons kv r ih =>
    obtain ⟨k, v⟩ := kv
    rw [KeyLoop.loadKeysWith_cons] at h
    rcases Except.bind_eq_error.mp h with h | ⟨here, _, h⟩
    · obtain ⟨h1, h2, h3⟩ := keyStep_unknownKeys fl eff ci k v c ks h hfl
      exact ⟨h1, k, h2, ⟨v, by simp⟩, h3⟩
    · rcases Except.bind_eq_error.mp h with h | ⟨_, _, h⟩
      · obtain ⟨h1, k', h2, ⟨v', hv'⟩, h4⟩ := ih h
        exact ⟨h1, k', h2, ⟨v', by simp [hv']⟩, h4⟩
      · cases h

/-- IGNORE / CATCH-ALL: the captured pairs are exactly the unknown pairs of the document, in document order,
spelled and valued as given, minus the tag key; nothing else is captured. -/
theorem C10_catchall_exact (fl : S → JVal → LRes) (eff : MetaCfg) (ci : ClassInfo) (kvs : List (S × JVal))
    (hr : eff.raiseOnUnknown.getD false = false) (kw : List (S × PyVal)) (ca : List (PyVal × PyVal))
    (h : loadKeysWith fl eff ci kvs = .ok (kw, ca)) :
    ca = (kvs.filter (fun kv => decide (IsUnknown eff ci kv.1) && !isTagKey eff kv.1)).map
            (fun kv => (PyVal.str kv.1, kv.2.toPy)) := by
  induction kvs generalizing kw ca with
  | nil => rw [loadKeysWith] at h; cases h; rfl
  | cons kv r ih =>
    obtain ⟨k, v⟩ := kv
    obtain ⟨here, hhere, more, hmore, _, rfl⟩ := KeyLoop.loadKeysWith_cons_ok.mp h
    have ih := ih more.1 more.2 hmore
    rw [List.filter_cons]
    by_cases hu : IsUnknown eff ci k
    · rw [keyStep_unknown fl eff ci k v hu, hr] at hhere
      cases hhere
      cases isTagKey eff k <;> simp [hu, ← ih]
    · rw [keyStep_known fl eff ci k v hu here hhere]
      simp [hu, ← ih]

/-- Unknown keys never change the values of mapped fields: the constructor arguments are the same with and
without them. -/
theorem C10_mapped_unaffected (fl : S → JVal → LRes) (eff : MetaCfg) (ci : ClassInfo) (kvs : List (S × JVal))
    (hr : eff.raiseOnUnknown.getD false = false) (kw : List (S × PyVal)) (ca : List (PyVal × PyVal))
    (h : loadKeysWith fl eff ci kvs = .ok (kw, ca)) :
    ∃ ca', loadKeysWith fl eff ci (kvs.filter (fun kv => !decide (IsUnknown eff ci kv.1))) = .ok (kw, ca') := by
  induction kvs generalizing kw ca with
  | nil => rw [loadKeysWith] at h; cases h; exact ⟨[], rfl⟩
  | cons kv r ih =>
    obtain ⟨k, v⟩ := kv
    obtain ⟨here, hhere, more, hmore, rfl, _⟩ := KeyLoop.loadKeysWith_cons_ok.mp h
    obtain ⟨ca', hca'⟩ := ih more.1 more.2 hmore
    rw [List.filter_cons]
    by_cases hu : IsUnknown eff ci k
    · rw [keyStep_unknown fl eff ci k v hu, hr] at hhere
      cases hhere
      exact ⟨ca', by simpa [hu] using hca'⟩
    · refine ⟨here.2 ++ ca', ?_⟩
      simp only [hu, decide_false, Bool.not_false, if_true]
      exact KeyLoop.loadKeysWith_cons_ok.mpr ⟨here, hhere, _, hca', rfl, rfl⟩

/-! ### v1 engine

The v1 class function does not walk the document: it looks the constructor fields up, counts the hits in `i` (plus the
whitelisted tag key when present) and uses `len(o) != i` as the test for "there is a key I do not know"; only then does it
compute `set(o) - aliases` (RAISE / WARN) or the catch-all comprehension. -/

open DW.Lemmas.V1

/-- the conditions under which `len(o) != i` is an exact test: the document is a JSON object (keys pairwise different), no two
constructor fields (nor a field and the tag key) share a key, every constructor field has exactly one key (no key-case AUTO,
no multi-key alias), and the class has a constructor field -/
structure V1WellKeyed (eff : MetaCfg) (ci : ClassInfo) (kvs : List (S × JVal)) : Prop where
  docNodup : (docKeys kvs).Nodup
  knownNodup : (v1KnownKeys eff ci).Nodup
  single : SingleKeyed eff ci
  nonempty : (v1InitFields ci).isEmpty = false

/-- a key of the document is unknown to the class: not a key of any constructor field, not the whitelisted tag key -/
def v1Unknown (eff : MetaCfg) (ci : ClassInfo) (k : S) : Bool := !(v1KnownKeys eff ci).contains k

/-- `len(o) != i` holds exactly when the document has an unknown key -/
theorem C10_v1_len_test_exact (fl : S → JVal → LRes) (eff : MetaCfg) (ci : ClassInfo) (kvs : List (S × JVal))
    (kw : List (S × PyVal)) (found : Nat) (hw : V1WellKeyed eff ci kvs) (hcount : v1Counting eff ci = true)
    (hok : v1Fields fl eff ci kvs ci.fields = .ok (kw, found)) :
    (kvs.length != v1Matched eff ci kvs found) = !(v1Extra eff ci kvs).isEmpty := by
  obtain ⟨_, hn⟩ := v1Fields_returns fl eff ci kvs ci.fields kw found hok
  rw [length_eq_matched_add_extra eff ci kvs found hw.docNodup hw.knownNodup hw.single hcount hw.nonempty hn]
  cases v1Extra eff ci kvs <;> simp

theorem find_none_of_any_false (ci : ClassInfo) (h : v1HasCatchAll ci = false) : ci.fields.find? (·.isCatchAll) = none :=
  List.find?_eq_none.mpr (List.any_eq_false.mp h)

theorem raise_counts (eff : MetaCfg) (ci : ClassInfo) (h : eff.v1OnUnknown = some .raise) : v1Counting eff ci = true := by
  simp [v1Counting, h]

/-- RAISE, v1: *every* document with at least one unknown key is rejected with UnknownKeysError naming the class and exactly
the unknown keys of the document (in document order), provided the values of the mapped fields converted. -/
theorem C10_v1_raise_rejects (fl : S → JVal → LRes) (eff : MetaCfg) (ci : ClassInfo) (kvs : List (S × JVal))
    (kw : List (S × PyVal)) (found : Nat) (hr : eff.v1OnUnknown = some .raise) (hca : v1HasCatchAll ci = false)
    (hw : V1WellKeyed eff ci kvs) (hok : v1Fields fl eff ci kvs ci.fields = .ok (kw, found))
    (hu : ∃ kv ∈ kvs, v1Unknown eff ci kv.1 = true) :
    v1ClassWith fl eff ci (.dict kvs) = .error (.unknownKeys ci.name ((v1Extra eff ci kvs).map (·.1))) ∧
    (v1Extra eff ci kvs).map (·.1) ≠ [] := by
  obtain ⟨kv, hm, hkv⟩ := hu
  have hne : v1Extra eff ci kvs ≠ [] := List.ne_nil_of_mem (List.mem_filter.mpr ⟨hm, hkv⟩)
  have htest := C10_v1_len_test_exact fl eff ci kvs kw found hw (raise_counts eff ci hr) hok
  have hemp : (v1Extra eff ci kvs).isEmpty = false := List.isEmpty_eq_false_iff.2 hne
  refine ⟨?_, fun h => hne (List.map_eq_nil_iff.mp h)⟩
  simp [v1ClassWith, hok, bind, Except.bind, v1Finish, hca, hr, htest, hemp]

/-- ... and a document *without* unknown keys is never rejected for its keys: it goes on to `cls(...)` with nothing captured -/
theorem C10_v1_raise_accepts_clean (fl : S → JVal → LRes) (eff : MetaCfg) (ci : ClassInfo) (kvs : List (S × JVal))
    (kw : List (S × PyVal)) (found : Nat) (hr : eff.v1OnUnknown = some .raise) (hca : v1HasCatchAll ci = false)
    (hw : V1WellKeyed eff ci kvs) (hok : v1Fields fl eff ci kvs ci.fields = .ok (kw, found))
    (hu : ∀ kv ∈ kvs, v1Unknown eff ci kv.1 = false) :
    v1ClassWith fl eff ci (.dict kvs) = finishClass ci kw [] (.dict kvs) := by
  have hnil : v1Extra eff ci kvs = [] := List.filter_eq_nil_iff.2 fun kv hm => Bool.eq_false_iff.1 (hu kv hm)
  have htest := C10_v1_len_test_exact fl eff ci kvs kw found hw (raise_counts eff ci hr) hok
  simp only [hnil, List.isEmpty_nil, Bool.not_true] at htest
  simp only [v1ClassWith, hok, bind, Except.bind, v1Finish, htest, Bool.and_false, Bool.false_eq_true, ↓reduceIte]
  exact finishKw_eq_finishClass ci kw _ _ _ (find_none_of_any_false ci hca)

/-- what an UnknownKeysError of the v1 engine names: exactly the keys of the document that are unknown to the class — never
a key of a mapped field, never the whitelisted tag key -/
theorem C10_v1_raise_names_exactly_unknown (eff : MetaCfg) (ci : ClassInfo) (kvs : List (S × JVal)) (k : S) :
    k ∈ (v1Extra eff ci kvs).map (·.1) ↔ (k ∈ docKeys kvs ∧ v1Unknown eff ci k = true) := by
  unfold v1Extra docKeys v1Unknown
  simp only [List.mem_map, List.mem_filter]
  constructor
  · rintro ⟨kv, ⟨hm, hp⟩, rfl⟩
    exact ⟨⟨kv, hm, rfl⟩, hp⟩
  · rintro ⟨⟨kv, hm, rfl⟩, hp⟩
    exact ⟨kv, ⟨hm, hp⟩, rfl⟩

/-- CATCH-ALL, v1: the catch-all argument is built from exactly the unknown pairs of the document, in document order, spelled and
valued as given; it is assigned whenever there is such a pair — and, for a catch-all field with a plain default, *only* then
(see `C10_v1_catchall_argument`) -/
theorem C10_v1_catchall_exact (fl : S → JVal → LRes) (eff : MetaCfg) (ci : ClassInfo) (kvs : List (S × JVal))
    (kw : List (S × PyVal)) (found : Nat) (hca : v1HasCatchAll ci = true)
    (hw : V1WellKeyed eff ci kvs) (hok : v1Fields fl eff ci kvs ci.fields = .ok (kw, found)) :
    v1ClassWith fl eff ci (.dict kvs)
      = finishKw ci (v1WithCatchAll ci kw (!(v1Extra eff ci kvs).isEmpty)
          ((v1Extra eff ci kvs).map (fun kv => (PyVal.str kv.1, kv.2.toPy)))) := by
  have hcount : v1Counting eff ci = true := by simp [v1Counting, hca]
  have htest := C10_v1_len_test_exact fl eff ci kvs kw found hw hcount hok
  simp only [v1ClassWith, hok, bind, Except.bind, v1Finish, hca, Bool.not_true, Bool.false_and, Bool.false_eq_true, ↓reduceIte, htest]

/-- what the constructor receives for the catch-all field `cf`: with unknown pairs, a dict of exactly those pairs; without any,
`{}` for a catch-all field without plain default and *nothing* (so the default is kept) for one with a plain default -/
theorem C10_v1_catchall_argument (ci : ClassInfo) (kw : List (S × PyVal)) (cf : FieldInfo) (extra : List (PyVal × PyVal))
    (hcf : ci.fields.find? (·.isCatchAll) = some cf) :
    (extra ≠ [] → v1WithCatchAll ci kw (!extra.isEmpty) extra = kw ++ [(cf.name, PyVal.map .dict extra)]) ∧
    (cf.dflt.isNone = true → v1WithCatchAll ci kw (!([] : List (PyVal × PyVal)).isEmpty) [] = kw ++ [(cf.name, PyVal.map .dict [])]) ∧
    (cf.dflt.isSome = true → cf.isFactory = false → v1WithCatchAll ci kw (!([] : List (PyVal × PyVal)).isEmpty) [] = kw) := by
  refine ⟨?_, ?_, ?_⟩
  · intro hne
    cases extra with
    | nil => exact absurd rfl hne
    | cons a r => simp [v1WithCatchAll, hcf]
  · intro hd
    simp [v1WithCatchAll, hcf, hd]
  · intro hd hf
    simp [v1WithCatchAll, hcf, Option.isNone_eq_false_iff.2 hd, hf]

/-- the tag key of a tagged class is whitelisted: it is a known key, hence never among the pairs reported or captured — unless a
*constructor* field carries that name (then it is that field's key) -/
theorem C10_v1_tag_key_never_extra (eff : MetaCfg) (ci : ClassInfo) (kvs : List (S × JVal))
    (ht : v1ExpectTag eff ci = true) : ∀ kv ∈ v1Extra eff ci kvs, kv.1 ≠ v1TagKey eff :=
  (v1TagKey_known ht kvs).2

/-- IGNORE / WARN / unset, v1, no catch-all field: unknown keys are dropped — the outcome is `cls(...)` on the mapped fields -/
theorem C10_v1_ignore_drops (fl : S → JVal → LRes) (eff : MetaCfg) (ci : ClassInfo) (kvs : List (S × JVal))
    (kw : List (S × PyVal)) (found : Nat) (hr : eff.v1OnUnknown ≠ some .raise) (hca : v1HasCatchAll ci = false)
    (hok : v1Fields fl eff ci kvs ci.fields = .ok (kw, found)) :
    v1ClassWith fl eff ci (.dict kvs) = finishClass ci kw [] (.dict kvs) :=
  v1ClassWith_drops hok hr (find_none_of_any_false ci hca)

theorem lookupFirst_filter_known (known : List S) (kvs : List (S × JVal)) (ks : List S) (h : ∀ k ∈ ks, k ∈ known) :
    lookupFirst (kvs.filter (fun kv => known.contains kv.1)) ks = lookupFirst kvs ks := by
  induction ks with
  | nil => rfl
  | cons k r ih =>
    obtain ⟨hk, hr⟩ := List.forall_mem_cons.1 h
    have hfun : (fun a : S × JVal => decide (known.contains a.1 = true ∧ (a.1 == k) = true)) = (fun a => a.1 == k) := by
      funext a
      by_cases hq : a.1 = k
      · simp [hq, hk]
      · simp [hq]
    simp only [lookupFirst, List.find?_filter, hfun, ih hr]

/-- Keys that map to no field never change the values of the mapped fields (v1): the field loop gives the same constructor
arguments — or the same error — on the document and on the document with its unknown pairs removed. -/
theorem C10_v1_mapped_unaffected (fl : S → JVal → LRes) (eff : MetaCfg) (ci : ClassInfo) (kvs : List (S × JVal))
    (fs : List FieldInfo) (hfs : ∀ f ∈ fs, f ∈ ci.fields) :
    v1Fields fl eff ci (kvs.filter (fun kv => !v1Unknown eff ci kv.1)) fs = v1Fields fl eff ci kvs fs := by
  have hfilter : (kvs.filter (fun kv => !v1Unknown eff ci kv.1)) = kvs.filter (fun kv => (v1KnownKeys eff ci).contains kv.1) :=
    List.filter_congr fun kv _ => Bool.not_not _
  rw [hfilter]
  induction fs with
  | nil => rfl
  | cons fi r ih =>
    obtain ⟨hfi, hr⟩ := List.forall_mem_cons.1 hfs
    rw [v1Fields_cons, v1Fields_cons, ih hr]
    congr 1
    -- a constructor field looks up known keys only
    unfold v1FieldStep
    split
    · rfl
    · next hskip =>
      have hin : fi ∈ v1InitFields ci := List.mem_filter.mpr ⟨hfi, by simpa using hskip⟩
      have hkeys : ∀ k ∈ v1Keys eff fi, k ∈ v1KnownKeys eff ci :=
        fun k hk => List.mem_append.mpr (.inr (List.mem_flatMap.mpr ⟨fi, hin, hk⟩))
      rw [lookupFirst_filter_known _ kvs _ hkeys]

/-- Witness (the library as it is, not repaired): without the one-key-per-field condition the `len(o) != i` test misfires. A field
with two alternative keys (`Alias('a', 'b')`, or key case AUTO) counts once however many of its spellings the document holds, so
under RAISE a document with *no* unknown key is rejected — with an empty list of unknown keys. -/
theorem C10_v1_raise_two_spellings_witness :
    let ci : ClassInfo := { name := ['K'], fields := [{ name := ['x'], loadKeys := [['a'], ['b']] }] }
    let eff : MetaCfg := { v1 := some true, v1OnUnknown := some .raise }
    let doc : List (S × JVal) := [(['a'], .int 1), (['b'], .int 2)]
    (∀ kv ∈ doc, v1Unknown eff ci kv.1 = false) ∧
    v1ClassWith (fun _ v => pure v.toPy) eff ci (.dict doc) = .error (.unknownKeys ['K'] []) := by
  refine ⟨by decide, by rfl⟩

/-! ### The write-back clause and the dump-side settings

`to_dict` writes the items of the CatchAll mapping back at top level.  The unknown pairs are the document's data, not fields of the
class: none of the settings that select or spell the class's own fields on a dump (Meta.skip_if, skip_defaults_if, skip_defaults,
key_transform_with_dump, SkipIf on other fields, the `skip_defaults` argument) has a say about them.  Stated on the dump model
(`dumpFields`, tied to the generated `cls_asdict` by the C10 / C11 / C03 correspondence streams). -/

/-- the declaration the field loop uses for the attribute called `n` -/
def fieldOf (ci : ClassInfo) (n : S) : FieldInfo := (ci.fields.find? (fun f => f.name == n)).getD { name := n }

/-- "the catch-all mapping is written": the attribute is the CatchAll field, it is not named in `exclude`, and it does not equal its
declared default (a CatchAll field without default is always written) -/
def CatchAllWritten (eff : MetaCfg) (args : DumpArgs) (ci : ClassInfo) (n : S) (v : PyVal) : Prop :=
  (fieldOf ci n).isCatchAll = true ∧ excluded args (fieldOf ci n) = false ∧
  (∀ d, (fieldOf ci n).dflt = some d → pyEqDflt v d = false) ∧
  -- … and the skip-defaults bookkeeping does not select it (a defaulted CatchAll field is tested like any defaulted field:
  -- the recorded finding `catchall-mapping-judged-by-skip-defaults-if`, witness below)
  (skipDefaultsOn eff args = true → defaultTest eff (fieldOf ci n) v = .ok false)

theorem fieldHere_catchAllWritten (std : Std) (ts : Bool) (cfg : Option MetaCfg) (eff : MetaCfg) (args : DumpArgs) (ci : ClassInfo)
    (n : S) (k : MapKind) (kvs : List (PyVal × PyVal)) (hw : CatchAllWritten eff args ci n (.map k kvs)) :
    fieldHere std ts cfg eff args (ci.fieldNamed n) (.map k kvs) = dumpCatchAll std ts cfg kvs := by
  obtain ⟨hca, hex, hnd, hsd⟩ := hw
  have hdef : GenDump.isDefaultVal (fieldOf ci n) (.map k kvs) = false := by
    unfold GenDump.isDefaultVal
    split
    · next d hd => exact hnd d hd
    · rfl
  -- `ci.fieldNamed n` unfolds to `fieldOf ci n`
  show fieldHere std ts cfg eff args (fieldOf ci n) _ = _
  have hby : (if skipDefaultsOn eff args = true then defaultTest eff (fieldOf ci n) (.map k kvs) else pure false) = .ok false := by
    split
    · exact hsd ‹_›
    · rfl
  rw [fieldHere, if_pos hca, catchAllHere, hex, if_neg Bool.false_ne_true, hby]
  show (if (false || GenDump.isDefaultVal _ _) = true then _ else _) = _
  rw [hdef]
  rfl

/-- C10, write-back clause on the dump model: for EVERY effective Meta `eff` (skip_if, skip_defaults_if, skip_defaults, dump key
transform, ...), every `skip_defaults` argument and every other field of the class, a dump that succeeds contains every item of the
mapping held by the CatchAll field (unless that field is excluded or equals its default).  `_partial`: the full statement
("unless excluded or default" only) is false of the code and of the model for a defaulted CatchAll field whose mapping satisfies
`Meta.skip_defaults_if` — `C10_writeback_lost_under_skip_defaults_if` below, recorded finding
`catchall-mapping-judged-by-skip-defaults-if` — so the hypothesis `CatchAllWritten` also asks that the skip-defaults
bookkeeping does not select the field. -/
theorem C10_writeback_whatever_dump_settings_partial (std : Std) (ts : Bool) (cfg : Option MetaCfg) (eff : MetaCfg) (args : DumpArgs)
    (ci : ClassInfo) (n : S) (k : MapKind) (kvs : List (PyVal × PyVal)) (hw : CatchAllWritten eff args ci n (.map k kvs)) :
    ∀ (fields : List (S × PyVal)) (out : List (DVal × DVal)), (n, PyVal.map k kvs) ∈ fields →
      dumpFields std ts cfg eff args ci fields = .ok out →
      ∃ items, dumpCatchAll std ts cfg kvs = .ok items ∧ ∀ p ∈ items, p ∈ out := by
  intro fields
  induction fields with
  | nil => intro out hm; cases hm
  | cons fv rest ih =>
    intro out hm h
    obtain ⟨n', v'⟩ := fv
    obtain ⟨here, hhere, more, hmore, rfl⟩ := dumpFields_cons_ok.mp h
    rcases List.mem_cons.mp hm with heq | hin
    · cases heq
      rw [fieldHere_catchAllWritten std ts cfg eff args ci n k kvs hw] at hhere
      exact ⟨here, hhere, fun p hp => List.mem_append_left _ hp⟩
    · obtain ⟨items, hi, hsub⟩ := ih more hin hmore
      exact ⟨items, hi, fun p hp => List.mem_append_right _ (hsub p hp)⟩

/-- the key an item of the CatchAll mapping is written under: the key itself -/
def itemKey : PyVal → DVal
  | .str s => .str s
  | .int i => .int i
  | .bool b => .bool b
  | .none => .null
  | _ => .bad "key".toList

/-- ... spelled as given, in the order of the mapping: no key transform touches them -/
theorem C10_writeback_keys_as_given (std : Std) (ts : Bool) (cfg : Option MetaCfg) :
    ∀ (kvs : List (PyVal × PyVal)) (items : List (DVal × DVal)), dumpCatchAll std ts cfg kvs = .ok items →
      items.map (·.1) = kvs.map (fun kv => itemKey kv.1) := by
  intro kvs
  induction kvs with
  | nil => intro items h; rw [dumpCatchAll] at h; cases h; rfl
  | cons kv rest ih =>
    intro items h
    obtain ⟨k, v⟩ := kv
    rw [dumpCatchAll_cons] at h
    obtain ⟨v', _, h⟩ := Except.bind_eq_ok.mp h
    obtain ⟨more, hr, h⟩ := Except.bind_eq_ok.mp h
    cases h
    rw [List.map_cons, List.map_cons, ih more hr]
    -- `itemKey` is the match `dumpCatchAll` writes the key with
    rfl

/-- non-vacuity: a class whose Meta leaves out every falsy value (skip_if = IS_FALSY()) and has skip_defaults on still writes back
both captured pairs, whose values are falsy, while its own field `x = 0` is left out -/
example (std : Std) :
    let ci : ClassInfo := { name := ['K'], fields := [{ name := ['x'] }, { name := ['r'], isCatchAll := true, dflt := some (.lit .none) }] }
    let eff : MetaCfg := { skipIf := some ⟨.falsy, .none⟩, skipDefaults := some true }
    let m : List (PyVal × PyVal) := [(.str ['n'], .int 0), (.str ['s'], .none)]
    CatchAllWritten eff {} ci ['r'] (.map .dict m) ∧
    dumpFields std false none eff {} ci [(['x'], .int 0), (['r'], .map .dict m)] = .ok [(.str ['n'], .int 0), (.str ['s'], .null)] := by
  refine ⟨⟨by decide, by decide, ?_, ?_⟩, by rfl⟩
  · intro d hd
    cases hd
    decide
  · intro _; rfl

/-- **the full write-back statement is false of the code** (and of the model, which follows it): with `skip_defaults_if = IS_TRUTHY()`
a defaulted CatchAll field holding a non-empty mapping is skipped as a "default", so both captured pairs are lost — replayed on the
implementation by `findings/catchall-mapping-judged-by-skip-defaults-if.py` -/
theorem C10_writeback_lost_under_skip_defaults_if (std : Std) :
    let ci : ClassInfo := { name := ['K'], fields := [{ name := ['x'] }, { name := ['r'], isCatchAll := true, dflt := some (.lit .none) }] }
    let eff : MetaCfg := { skipDefaultsIf := some ⟨.truthy, .none⟩ }
    let m : List (PyVal × PyVal) := [(.str ['n'], .int 0), (.str ['s'], .none)]
    dumpFields std false none eff {} ci [(['x'], .int 5), (['r'], .map .dict m)] = .ok [(.str ['x'], .int 5)] := by
  rfl

open DW.GenDump in
/-- **C10 (the generated dump function writes the captured pairs back).**  For any class with a CatchAll field `fi` that is not
named in `exclude`, is not skipped as a default and does not hold its default, running the body `dump_func_for_dataclass` writes
for the class re-emits the items of the mapping the field holds at top level — whatever other fields, aliases, skip conditions
and Meta switches the class has (`Meta.skip_if` and per-field conditions of other fields never apply to the captured pairs). -/
theorem C10_generated_code_writes_back (p : Char → Bool) (ρ : Env) (eff : MetaCfg) (args : DumpArgs)
    (fks : List (FieldInfo × S)) (vals : S → PyVal) (W : World p eff args fks vals ρ) (dtv ocv : FieldInfo → Bool)
    (Hd : ∀ q ∈ fks, defaultTest eff q.1 (vals q.1.name) = .ok (dtv q.1))
    (Ho : ∀ q ∈ fks, ownCond eff q.1 (vals q.1.name) = .ok (ocv q.1))
    (fi : FieldInfo) (k : S) (hmem : (fi, k) ∈ fks) (hca : fi.isCatchAll = true)
    (hex : excluded args fi = false) (hsd : (skipDefaultsOn eff args && dtv fi) = false)
    (hnd : isDefaultVal fi (vals fi.name) = false) :
    ∃ out, run ρ (genBody p (ginOf eff fks)) = .ok out ∧ Emit.catchAll fi.name ∈ out := by
  refine ⟨_, run_genBody_ok p ρ eff args fks vals W dtv ocv Hd Ho, ?_⟩
  apply List.mem_append_left
  simp only [List.mem_flatMap]
  refine ⟨(fi, k), hmem, ?_⟩
  simp [refEmitOf, refFieldEmit, hca, hex, hsd, hnd]

end DW.Props.C10
