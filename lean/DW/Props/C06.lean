/-
C06 — results do not depend on call history: caches are transparent.
Dump side (the cache state machine `DW.Caches`): what a dump shows first in a fresh process is the specification, and repeating
it never changes it (the known leak through a shared nested class is `C07_shared_nested_witness`).  Load side (the per-class key
cache, `DW.KeyCache`): every call returns what it returns in a fresh process, after any history and across unknown-key policies.
-/
import DW.Model.Caches
import DW.Props.C07
import DW.Lemmas.KeyCache

namespace DW.Props.C06
open DW DW.Caches DW.Props.C07

/-- state of a class right after its definition (its own Meta, if any, bound to its dumper) -/
def defState (own : Option MetaL) : ClsSt :=
  match own with
  | none => {}
  | some m => bindDumper {} m

theorem orElse_orElse_getD {α} (a b : Option α) (d : α) : ((a <|> b) <|> a).getD d = (a <|> b).getD d := by
  cases a <;> cases b <;> rfl

theorem beq_some_true (x : Option Bool) : (x == some true) = x.getD false := by
  cases x with
  | none => rfl
  | some b => cases b <;> rfl

theorem genKeys_eq (s : ClsSt) :
    genKeys s = { s with aliasStyle := some (s.aliasStyle.getD (s.dumperKt.getD .camel)) } := by
  cases s with
  | mk a k t => cases a <;> rfl

theorem mergeL_kt (own cfg : Option MetaL) : (mergeL own cfg).kt = (own.bind (·.kt) <|> cfg.bind (·.kt)) := by
  cases own <;> cases cfg <;> simp [mergeL]

theorem mergeL_ts (own cfg : Option MetaL) : (mergeL own cfg).ts = (own.bind (·.ts) <|> cfg.bind (·.ts)) := by
  cases own <;> cases cfg <;> simp [mergeL]

theorem defState_eq (own : Option MetaL) :
    defState own = { dumperKt := own.bind (·.kt), dumperTs := own.bind (·.ts) == some true } := by
  cases own with
  | none => rfl
  | some m => simp [defState, bindDumper]

theorem occOf_genKeys_empty (n : Nat) (s : ClsSt) (h : s.aliasStyle = none) :
    occOf n (genKeys s) = (n, s.dumperKt.getD .camel, s.dumperTs) := by
  simp [genKeys_eq, occOf, h]

theorem bindDumper_genKeys_bindDumper (s : ClsSt) (m : MetaL) :
    bindDumper (genKeys (bindDumper s m)) m = genKeys (bindDumper s m) := by
  simp [genKeys_eq, bindDumper, ← Option.or_assoc]

theorem genKeys_idem (s : ClsSt) : genKeys (genKeys s) = genKeys s := by simp [genKeys_eq]

theorem nestedUpdate_idem (ds : Defs) (cfg : Option MetaL) (n : Nat) (s : ClsSt) :
    nestedUpdate ds cfg n (nestedUpdate ds cfg n s) = nestedUpdate ds cfg n s := by
  cases cfg with
  | none => exact genKeys_idem s
  | some c =>
    simp only [nestedUpdate]
    rw [bindDumper_genKeys_bindDumper, genKeys_idem]

/-- first use after definition shows the specification -/
theorem nestedUpdate_def_spec (ds : Defs) (cfg : Option MetaL) (n : Nat) :
    occOf n (nestedUpdate ds cfg n (defState (ds.get n).own)) = specOcc n (mergeL (ds.get n).own cfg) := by
  cases cfg with
  | none =>
    simp only [nestedUpdate]
    rw [occOf_genKeys_empty _ _ (by rw [defState_eq]), defState_eq]
    simp [specOcc, mergeL_kt, mergeL_ts, beq_some_true]
  | some c =>
    simp only [nestedUpdate]
    rw [occOf_genKeys_empty _ _ (by rw [defState_eq]; rfl), defState_eq]
    simp only [bindDumper, specOcc, mergeL_kt, mergeL_ts, beq_some_true, Option.bind_some]
    -- the class's own transform is bound twice, at its definition and again inside `mergeL own cfg`: `(own <|> cfg) <|> own`
    rw [orElse_orElse_getD]
    -- likewise the TIMESTAMP flag is or-ed in twice, `own.getD false || (own <|> cfg).getD false`; the first disjunct adds nothing
    -- whether the class's own `ts` is `none`, `some false` or `some true`
    rcases (ds.get n).own.bind (·.ts) with _ | _ | _ <;> simp

/-! ### the nested pass over distinct classes, in closed form -/

theorem dumpNested_occs (ds : Defs) (cfg : Option MetaL) (ns : List Nat) (hnd : ns.Nodup) (st : St) :
    (dumpNested ds cfg st ns).2 = ns.map (fun n => occOf n (nestedUpdate ds cfg n (st.get n))) := by
  induction ns generalizing st with
  | nil => rfl
  | cons n r ih =>
    obtain ⟨hn, hr⟩ := List.nodup_cons.mp hnd
    simp only [dumpNested, List.map_cons]
    rw [ih hr]
    congr 1
    exact List.map_congr_left fun m hm => by rw [get_set_ne (ne_of_mem_of_not_mem hm hn)]

theorem dumpNested_get (ds : Defs) (cfg : Option MetaL) (ns : List Nat) (hnd : ns.Nodup) (st : St) (c : Nat)
    (hc : c ∈ ns) : ((dumpNested ds cfg st ns).1).get c = nestedUpdate ds cfg c (st.get c) := by
  induction ns generalizing st with
  | nil => cases hc
  | cons n r ih =>
    obtain ⟨hn, hr⟩ := List.nodup_cons.mp hnd
    simp only [dumpNested]
    by_cases hcr : c ∈ r
    · rw [ih hr _ hcr, get_set_ne (ne_of_mem_of_not_mem hcr hn)]
    · obtain rfl : c = n := (List.mem_cons.mp hc).resolve_right hcr
      rw [dumpNested_frame ds cfg r _ c hcr, get_set_eq]

/-- C06 (repetition): the same dump made again — immediately after — shows exactly the same. -/
theorem C06_repeat_same (ds : Defs) (st : St) (r : Nat) (hnd : (ds.get r).nested.Nodup) (hr : r ∉ (ds.get r).nested) :
    (step ds (step ds st (.dump r)).1 (.dump r)).2 = (step ds st (.dump r)).2 := by
  simp only [step]
  -- the root's entry after a nested pass is the one the pass started with
  have hroot : ∀ s : St, ((dumpNested ds (rootCfg (ds.get r).own) (s.set r (genKeys (s.get r))) (ds.get r).nested).1).get r
      = genKeys (s.get r) := fun s => by rw [dumpNested_frame _ _ _ _ r hr, get_set_eq]
  rw [hroot, hroot, genKeys_idem]
  congr 1
  -- every nested class is updated a second time, from the state the first update left
  rw [dumpNested_occs _ _ _ hnd, dumpNested_occs _ _ _ hnd]
  apply List.map_congr_left
  intro n hn
  rw [get_set_ne (ne_of_mem_of_not_mem hn hr), dumpNested_get _ _ _ hnd _ _ hn, nestedUpdate_idem]

/-- a state in which the listed classes have just been defined and not used yet -/
def FreshOn (ds : Defs) (st : St) (cs : List Nat) : Prop := ∀ c ∈ cs, st.get c = defState (ds.get c).own

theorem dumpNested_fresh (ds : Defs) (cfg : Option MetaL) (ns : List Nat) (hnd : ns.Nodup) (st : St)
    (hf : FreshOn ds st ns) :
    (dumpNested ds cfg st ns).2 = ns.map (fun n => specOcc n (mergeL (ds.get n).own cfg)) := by
  rw [dumpNested_occs ds cfg ns hnd]
  apply List.map_congr_left
  intro n hn
  rw [hf n hn, nestedUpdate_def_spec]

/-- C06 (first use is the specification): in a state where a class and the classes nested in it have been defined
but not used, a dump shows exactly the specified fingerprint — own Meta for the root, merge(own, root config) for every
nested class.  (`defState` is what `step`'s `.define` arm stores for a class whose entry is still the initial one.) -/
theorem C06_first_use_is_spec (ds : Defs) (st : St) (r : Nat) (hnd : (ds.get r).nested.Nodup)
    (hr : r ∉ (ds.get r).nested) (hf : FreshOn ds st (r :: (ds.get r).nested)) :
    (step ds st (.dump r)).2 = specDump ds r := by
  simp only [step, specDump]
  rw [dumpNested_frame _ _ _ _ r hr, get_set_eq, hf r (List.mem_cons_self ..)]
  congr 1
  · exact nestedUpdate_def_spec ds none r
  · apply dumpNested_fresh ds _ _ hnd
    intro c hc
    rw [get_set_ne (ne_of_mem_of_not_mem hc hr)]
    exact hf c (List.mem_cons_of_mem _ hc)

/-- C06 / C07 combined: operations on *other* families (disjoint from this dump's family) in between do not matter:
the first dump of a freshly defined family shows the specification after any such history. -/
theorem C06_transparent_partial (ds : Defs) (st : St) (ops : List Op) (r : Nat) (hnd : (ds.get r).nested.Nodup)
    (hr : r ∉ (ds.get r).nested) (hf : FreshOn ds st (r :: (ds.get r).nested))
    (hdisj : ∀ op ∈ ops, ∀ c ∈ family ds (.dump r), c ∉ family ds op) :
    (step ds (run ds st ops).1 (.dump r)).2 = specDump ds r := by
  rw [C07_disjoint ds st ops r hdisj]
  exact C06_first_use_is_spec ds st r hnd hr hf

/-- **C06 (load side, any history).** The generated loader looks JSON keys up in a per-class cache that every call
extends. For any class, any effective Meta, any per-field loaders and **any sequence of earlier documents** loaded by
that class: every call returns exactly what the same call returns in a fresh process (the loop without a cache,
`loadClassWith`). Invariant by induction over the history: every cached entry is what the slow path computes for its
key; a class that rejects unknown keys rejects them whether it finds them cached or not. -/
theorem C06_load_history_independent (FL : S → JVal → LRes) (eff : MetaCfg) (ci : ClassInfo)
    (docs : List (List (S × JVal))) :
    (KeyCache.runCalls false FL eff ci [] docs).1 = docs.map (fun d => loadClassWith FL eff ci (.dict d)) :=
  KeyCache.history_eq false FL eff ci docs [] (KeyCache.Inv_nil eff ci)

/-- … and the cache a call leaves behind satisfies the invariant again, also when the call fails half way -/
theorem C06_load_cache_invariant (FL : S → JVal → LRes) (eff : MetaCfg) (ci : ClassInfo) (c : KeyCache.Cache)
    (hc : KeyCache.Inv eff ci c) (d : List (S × JVal)) :
    KeyCache.Inv eff ci (KeyCache.loadCall false FL eff ci c d).2 :=
  (KeyCache.call_eq false FL eff ci c hc d).2

def isOk : LRes → Bool
  | .ok _ => true
  | .error _ => false

/-- **the same class under several policies.** The functions generated for one class under different unknown-key policies
— the class loaded on its own, nested under a main class whose `raise_on_unknown_json_key` cascades, nested under one
without — share the class's key cache. For any history of such calls (each with the effective Meta of the function it goes
through; they resolve keys alike, `KeyCache.SameKeys`), every call returns what it returns in a fresh process under its
own policy: a key cached as "ignored" by a lenient call is still rejected by a strict one (finding
`ignored-key-cache-defeats-cascaded-raise`), and a rejection leaves nothing behind that a lenient call could trip over. -/
theorem C06_load_history_independent_across_policies (FL : S → JVal → LRes) (ci : ClassInfo) (eff0 : MetaCfg)
    (calls : List (MetaCfg × List (S × JVal))) (hs : ∀ p ∈ calls, KeyCache.SameKeys ci eff0 p.1) :
    (KeyCache.runCallsP FL ci [] calls).1 = calls.map (fun p => loadClassWith FL p.1 ci (.dict p.2)) :=
  KeyCache.history_policies_eq FL ci eff0 calls [] (KeyCache.Inv_nil eff0 ci) hs

/-- the hypothesis is met by policies that differ in `raise_on_unknown_json_key` only; and the concrete history "lenient,
then strict, then lenient" on `K(a)` with the unknown key `zzz` gives accepted / rejected / accepted -/
theorem C06_across_policies_witness :
    let ci : ClassInfo := { name := "K".toList, fields := [{ name := "a".toList }] }
    let lenient : MetaCfg := {}
    let strict : MetaCfg := { raiseOnUnknown := some true }
    let doc : List (S × JVal) := [("a".toList, .int 1), ("zzz".toList, .int 2)]
    KeyCache.SameKeys ci lenient strict ∧
    ((KeyCache.runCallsP (fun _ v => pure v.toPy) ci [] [(lenient, doc), (strict, doc), (lenient, doc)]).1.map isOk
      = [true, false, true]) := by
  exact ⟨KeyCache.sameKeys_raise _ _ _, by rfl⟩

/-- Witness for the negative cache: under RAISE, `K(a)` with the unknown key `zzz`, loaded twice, is rejected both times, whether the
strict function also caches unknown keys (`quirk`, the library before 4bdd4a1) or not: a cached unknown key is rejected like a freshly
resolved one (an instance of `KeyCache.history_eq`, which holds for either discipline). -/
theorem C06_negative_cache_witness :
    let ci : ClassInfo := { name := "K".toList, fields := [{ name := "a".toList }] }
    let eff : MetaCfg := { raiseOnUnknown := some true }
    let doc : List (S × JVal) := [("a".toList, .int 1), ("zzz".toList, .int 2)]
    ((KeyCache.runCalls true (fun _ v => pure v.toPy) eff ci [] [doc, doc]).1.map isOk = [false, false]) ∧
    ((KeyCache.runCalls false (fun _ v => pure v.toPy) eff ci [] [doc, doc]).1.map isOk = [false, false]) := by
  intro ci eff doc
  have h : ∀ quirk, (KeyCache.runCalls quirk (fun _ v => pure v.toPy) eff ci [] [doc, doc]).1.map isOk = [false, false] :=
    fun quirk => by rw [KeyCache.history_eq quirk _ eff ci _ [] (KeyCache.Inv_nil eff ci)]; rfl
  exact ⟨h true, h false⟩

end DW.Props.C06
