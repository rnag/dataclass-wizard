/-
C02 — dump-then-load is the identity (v1 engine).
-/
import DW.Generated.Tables
import DW.Model.LoadV1
import DW.Model.StdLaws
import DW.Lemmas.Dump
import DW.Lemmas.RoundTripV1

namespace DW.Props.C02
open DW DW.Str

/-- bytes / bytearray: base64 text written by dump is decoded back (v1 only). -/
theorem C02_bytes_roundtrip (std : Std) (laws : StdLaws std) (cfg : Option MetaCfg) (m : Bool) (b : List Nat) :
    dumpScalar std false (.bytes m b) = .ok (.str (std.b64encode b)) ∧
    loadV1 std cfg (if m then .bytearray else .bytes) (.str (std.b64encode b)) = .ok (.bytes m b) :=
  ⟨dumpScalar_bytes std false m b, RTV1.loadV1_b64 std laws cfg m b⟩

theorem C02_datetime_roundtrip (std : Std) (laws : StdLaws std) (cfg : Option MetaCfg) (t : S)
    (ht : std.validTok .datetime t = true) :
    dumpScalar std false (.leaf .datetime false t) = .ok (.str (isoZ t)) ∧
    loadV1 std cfg (.leaf .datetime) (.str (isoZ t)) = .ok (.leaf .datetime false t) :=
  ⟨dumpScalar_leaf std .datetime false t, RTV1.loadV1_leafText std laws cfg .datetime t ht⟩

theorem C02_time_roundtrip (std : Std) (laws : StdLaws std) (cfg : Option MetaCfg) (t : S)
    (ht : std.validTok .time t = true) :
    dumpScalar std false (.leaf .time false t) = .ok (.str (isoZ t)) ∧
    loadV1 std cfg (.leaf .time) (.str (isoZ t)) = .ok (.leaf .time false t) :=
  ⟨dumpScalar_leaf std .time false t, RTV1.loadV1_leafText std laws cfg .time t ht⟩

theorem C02_date_roundtrip (std : Std) (laws : StdLaws std) (cfg : Option MetaCfg) (t : S)
    (ht : std.validTok .date t = true) :
    loadV1 std cfg (.leaf .date) (.str t) = .ok (.leaf .date false t) :=
  RTV1.loadV1_leafText std laws cfg .date t ht

theorem C02_decimal_roundtrip (std : Std) (laws : StdLaws std) (cfg : Option MetaCfg) (t : S)
    (ht : std.validTok .decimal t = true) :
    loadV1 std cfg (.leaf .decimal) (.str t) = .ok (.leaf .decimal false t) :=
  RTV1.loadV1_leafText std laws cfg .decimal t ht

theorem C02_uuid_roundtrip (std : Std) (laws : StdLaws std) (cfg : Option MetaCfg) (t : S)
    (ht : std.validTok .uuid t = true) :
    loadV1 std cfg (.leaf .uuid) (.str t) = .ok (.leaf .uuid false t) :=
  RTV1.loadV1_leafText std laws cfg .uuid t ht

theorem C02_path_roundtrip (std : Std) (laws : StdLaws std) (cfg : Option MetaCfg) (t : S)
    (ht : std.validTok .path t = true) :
    loadV1 std cfg (.leaf .path) (.str t) = .ok (.leaf .path false t) :=
  RTV1.loadV1_leafText std laws cfg .path t ht

theorem C02_plain_scalars (std : Std) (cfg : Option MetaCfg) (i : Int) (b : Bool) (s : S) (f : PyFloat) :
    loadV1 std cfg .int (.int i) = .ok (.int i) ∧ loadV1 std cfg .bool (.bool b) = .ok (.bool b) ∧
    loadV1 std cfg .str (.str s) = .ok (.str s) ∧ loadV1 std cfg .float (.float f) = .ok (.float f) :=
  ⟨rfl, rfl, rfl, rfl⟩

/-- Consistent (v1_key_case, dump transform) pairs: the key dump writes for a field is the key v1 looks it up
under (first candidate), for every field name. -/
theorem C02_keys_consistent (fi : FieldInfo) (eff : MetaCfg) (hk : fi.loadKeys = []) (hd : fi.dumpAll = false) :
    (eff.v1KeyCase = none → eff.keyTransformDump = some .none → dumpKey eff fi = .ok fi.name ∧ v1Keys eff fi = [fi.name]) ∧
    (eff.v1KeyCase = some .camel → eff.keyTransformDump = some .camel →
        ∃ k, dumpKey eff fi = .ok k ∧ v1Keys eff fi = [k]) ∧
    (eff.v1KeyCase = some .pascal → eff.keyTransformDump = some .pascal →
        ∃ k, dumpKey eff fi = .ok k ∧ v1Keys eff fi = [k]) ∧
    (eff.v1KeyCase = some .kebab → eff.keyTransformDump = some .lisp →
        ∃ k, dumpKey eff fi = .ok k ∧ v1Keys eff fi = [k]) ∧
    (eff.v1KeyCase = some .snake → eff.keyTransformDump = some .snake →
        ∃ k, dumpKey eff fi = .ok k ∧ v1Keys eff fi = [k]) := by
  refine ⟨fun h1 h2 => ?_, fun h1 h2 => ?_, fun h1 h2 => ?_, fun h1 h2 => ?_, fun h1 h2 => ?_⟩
  · simp [dumpKey, v1Keys, hk, hd, h1, h2, LetterCaseOpt.toLC, LetterCase.apply]
  · obtain ⟨k, hc⟩ := RTV1.toCamel_some fi.name
    exact ⟨k, by simp [dumpKey, hd, h2, LetterCaseOpt.toLC, LetterCase.apply, hc], by simp [v1Keys, hk, h1, hc]⟩
  · obtain ⟨k, hc⟩ := RTV1.toPascal_some fi.name
    exact ⟨k, by simp [dumpKey, hd, h2, LetterCaseOpt.toLC, LetterCase.apply, hc], by simp [v1Keys, hk, h1, hc]⟩
  · exact ⟨toLisp fi.name, by simp [dumpKey, hd, h2, LetterCaseOpt.toLC, LetterCase.apply], by simp [v1Keys, hk, h1]⟩
  · exact ⟨toSnake fi.name, by simp [dumpKey, hd, h2, LetterCaseOpt.toLC, LetterCase.apply], by simp [v1Keys, hk, h1]⟩

/-- AUTO looks a field up under its own name first, so any dump transform that leaves the name unchanged
(NONE, or SNAKE on a snake_case name) is consistent with it. -/
theorem C02_auto_own_name_first (fi : FieldInfo) (eff : MetaCfg) (hk : fi.loadKeys = []) (h : eff.v1KeyCase = some .auto) :
    (v1Keys eff fi).head? = some fi.name := by
  simp [v1Keys, hk, h]

/-- KNOWN FINDING (witness): inside a Union a `list[...]` member listed before `str` try-parses a string by
iterating it. -/
theorem C02_union_container_first_witness (std : Std) :
    loadV1 std none (.union [.seq .list .str, .str]) (.str "ab".toList)
      = .ok (.seq .list [.str ['a'], .str ['b']]) := by
  rfl

/-- **C02 (structure).** Below a main class whose v1 Meta makes the load key case match the dump key transform — described
by an `RTV1.Setup`: the Meta `su.m` and the key function `su.kf` both sides agree on; instances below for
`v1_key_case = 'CAMEL'` with the default dump transform, keys as they are, AUTO, KEBAB / LISP, SNAKE and PASCAL — for every
type of the fragment int / float / str / bool / Decimal / Path / UUID / date / time / datetime /
non-negative timedelta (canonical tokens, under the named `StdLaws`, incl. the `Z` spelling read back by `fromisoformat`) /
Enum (pairwise different values) / Literal[...] / bytes / bytearray (base64 law) / Optional[·] / list[·] / deque[·] /
set[·] / frozenset[·] (hashable, pairwise different elements) / tuple[·, ...] / fixed tuples (also nested in one another:
the generated `v1[k]` indexing) / NamedTuple classes / TypedDict classes (distinct keys, every Required key present, NotRequired keys present or
absent, entries in declaration order) / dict[str, ·] / defaultdict[str, ·] /
OrderedDict[str, ·] / Unions holding a tagged dataclass next to any other members that do not answer to its tag, and None /
dataclass whose only customisation of its own is a tag (each field is dumped under `su.kf name`, that key is
the first one its loader tries, and the keys — and the tag key — are pairwise distinct: `RTV1.ClsOK su`), nested
to any depth, and every conforming value: whatever the dump produces, its JSON image loads back to exactly the value
through the v1 loader. -/
theorem C02_roundtrip_struct (su : RTV1.Setup) (std : Std) (laws : StdLaws std) (t : Ty) (v : PyVal)
    (hc : RTV1.Conf su std t v) (d : DVal)
    (h : dumpV std false (some su.m) v = .ok d) : loadV1 std (some su.m) t (RT.toJ d) = .ok v :=
  RTV1.roundtrip std laws t v hc d h

/-- … and at the top level: `fromdict(cls, json.loads(json.dumps(asdict(x)))) == x` for every instance of a main class
that declares that Meta. -/
theorem C02_roundtrip_root (su : RTV1.Setup) (std : Std) (laws : StdLaws std) (ci : ClassInfo) (ftys : List (S × Ty))
    (v : PyVal) (hm : ci.cmeta = some su.m) (hc : RTV1.Conf su std (.cls ci ftys) v) (d : DVal)
    (h : asdict std {} v = .ok d) : fromdictV1 std (.cls ci ftys) (RT.toJ d) = .ok v :=
  RTV1.roundtrip_root std laws ci ftys v hm hc d h

/-- **the configurations the property names.** Each is a `Setup`, and for
each of them an unaliased class (`RTV1.Unaliased`: plain constructor fields, distinct names) meets `RTV1.PlainCls` under
the stated, purely syntactic condition on its field names: none for keys as they are and for AUTO (which tries the field's
own name first); pairwise distinct transformed names for KEBAB and SNAKE; additionally a defined transform for CAMEL and
PASCAL. -/
theorem C02_key_cases (ci : ClassInfo) (ftys : List (S × Ty)) (hu : RTV1.Unaliased ci ftys) (hm : ci.cmeta = none) :
    RTV1.PlainCls RTV1.asIsSetup ci ftys ∧ RTV1.PlainCls RTV1.autoSetup ci ftys ∧
    ((ci.fields.map (fun f => toLisp f.name)).Nodup → RTV1.PlainCls RTV1.kebabSetup ci ftys) ∧
    ((ci.fields.map (fun f => toSnake f.name)).Nodup → RTV1.PlainCls RTV1.snakeSetup ci ftys) ∧
    ((∀ f ∈ ci.fields, ∃ k, toCamel f.name = some k) → (ci.fields.map (fun f => (toCamel f.name).getD f.name)).Nodup →
      RTV1.PlainCls RTV1.camelSetup ci ftys) ∧
    ((∀ f ∈ ci.fields, ∃ k, toPascal f.name = some k) → (ci.fields.map (fun f => (toPascal f.name).getD f.name)).Nodup →
      RTV1.PlainCls RTV1.pascalSetup ci ftys) :=
  ⟨RTV1.plain_asIs ci ftys hu (Or.inl hm), RTV1.plain_auto ci ftys hu (Or.inl hm),
   fun hk => RTV1.plain_kebab ci ftys hu (Or.inl hm) hk, fun hk => RTV1.plain_snake ci ftys hu (Or.inl hm) hk,
   fun _ hk => RTV1.plain_camel ci ftys hu (Or.inl hm) hk, fun _ hk => RTV1.plain_pascal ci ftys hu (Or.inl hm) hk⟩

/-- the Metas of the six configurations, spelled out -/
theorem C02_key_case_metas :
    RTV1.camelSetup.m = { v1 := some true, v1KeyCase := some .camel } ∧
    RTV1.asIsSetup.m = { v1 := some true, keyTransformDump := some .none } ∧
    RTV1.autoSetup.m = { v1 := some true, v1KeyCase := some .auto, keyTransformDump := some .none } ∧
    RTV1.kebabSetup.m = { v1 := some true, v1KeyCase := some .kebab, keyTransformDump := some .lisp } ∧
    RTV1.snakeSetup.m = { v1 := some true, v1KeyCase := some .snake, keyTransformDump := some .snake } ∧
    RTV1.pascalSetup.m = { v1 := some true, v1KeyCase := some .pascal, keyTransformDump := some .pascal } :=
  ⟨rfl, rfl, rfl, rfl, rfl, rfl⟩

/-- the hypotheses are satisfiable: `Root(inner_obj: Inner, by_name: dict[str, Inner], when_at: Optional[datetime])` with
the v1 CAMEL Meta and `Inner(val_one: int, tags: list[str])` are both `RTV1.PlainCls`; `Inner` also under AUTO and with
keys as they are -/
theorem C02_roundtrip_example :
    RTV1.PlainCls RTV1.camelSetup RTV1.exRoot RTV1.exRootTys ∧ RTV1.PlainCls RTV1.camelSetup RTV1.exInner RTV1.exInnerTys ∧
    RTV1.exRoot.cmeta = some RTV1.camelSetup.m ∧
    RTV1.PlainCls RTV1.autoSetup RTV1.exInner RTV1.exInnerTys ∧ RTV1.PlainCls RTV1.asIsSetup RTV1.exInner RTV1.exInnerTys :=
  ⟨RTV1.exRoot_plain, RTV1.exInner_plain, rfl, RTV1.exInner_plain_auto, RTV1.exInner_plain_asIs⟩

/-- further kinds of the fragment are inhabited: a `tuple[int, tuple[str, bool]]` (a fixed tuple nested in a fixed
tuple: the shape repaired by f3aedfc), a `bytes`, a `frozenset[str]` and a `Literal[1, 'a']` value conform. -/
theorem C02_roundtrip_example_containers (su : RTV1.Setup) (std : Std) :
    RTV1.Conf su std (.tuple [.int, .tuple [.str, .bool]]) (.tuple [.int 1, .tuple [.str "a".toList, .bool true]]) ∧
    RTV1.Conf su std .bytes (.bytes false [1, 2, 255]) ∧
    RTV1.Conf su std (.seq .frozenset .str) (.seq .frozenset [.str "a".toList, .str "b".toList]) ∧
    RTV1.Conf su std (.literal [.int 1, .str "a".toList]) (Lit.toPy (.str "a".toList)) :=
  ⟨RTV1.Conf.tuple _ _ (List.cons_ne_nil _ _) rfl (forall_mem_pair (RTV1.Conf.int 1)
      (RTV1.Conf.tuple _ _ (List.cons_ne_nil _ _) rfl (forall_mem_pair (RTV1.Conf.str _) (RTV1.Conf.bool _)))),
   RTV1.Conf.bytes _, RTV1.Conf.frozenset _ _ (by rfl) (by rfl) (forall_mem_pair (RTV1.Conf.str _) (RTV1.Conf.str _)),
   RTV1.Conf.literal _ (.str "a".toList) (by simp) (by rfl)⟩

/-- TypedDict values of the v1 fragment exist: for `class TD(TypedDict): a: int; b: NotRequired[str]` the value
`{'a': 1}` conforms below every setup. -/
theorem C02_roundtrip_example_typeddict (su : RTV1.Setup) (std : Std) :
    RTV1.Conf su std (.typeddict "TD".toList [("a".toList, .int, true), ("b".toList, .str, false)])
      (.map .dict [(.str "a".toList, .int 1)]) :=
  RTV1.Conf.typeddict "TD".toList [("a".toList, .int, true), ("b".toList, .str, false)] [some (.int 1), none] (by decide) rfl
    (forall_mem_pair (fun h => nomatch h) (fun _ => rfl))
    (forall_mem_pair (fun _ hv => Option.some.inj hv ▸ RTV1.Conf.int 1) (fun _ hv => nomatch hv))

end DW.Props.C02
