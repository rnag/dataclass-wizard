-- Root of the `DW` library: generated tables, model, driver glue and property theorems.
import DW.Generated.Tables
import DW.Model.Strings
import DW.Model.ObjPath
import DW.Model.Values
import DW.Model.Std
import DW.Model.Dump
import DW.Model.Load
import DW.Model.LoadV1
import DW.Model.Caches
import DW.Model.KeyCache
import DW.Model.Conc
import DW.Model.C17
import DW.Model.Names
import DW.Driver.Strings
import DW.Driver.Codec
import DW.Driver.Core
import DW.Driver.Caches
import DW.Driver.Conc
import DW.Driver.C17
import DW.Driver.Names
import DW.Model.StdLaws
import DW.Lemmas.Strings
import DW.Lemmas.Except
import DW.Lemmas.Dump
import DW.Lemmas.DumpFields
import DW.Lemmas.DumpJson
import DW.Lemmas.DumpSafe
import DW.Lemmas.LoadWith
import DW.Lemmas.Tagged
import DW.Lemmas.RoundTrip
import DW.Lemmas.TaggedV1
import DW.Lemmas.RoundTripV1
import DW.Lemmas.RoundTripKeys
import DW.Lemmas.Post
import DW.Lemmas.SoundScalar
import DW.Lemmas.Sound
import DW.Lemmas.SoundV1
import DW.Lemmas.KeyCache
import DW.Props.C01
import DW.Props.C02
import DW.Props.C03
import DW.Props.C04
import DW.Props.C05
import DW.Props.C06
import DW.Props.C07
import DW.Props.C09
import DW.Props.C10
import DW.Props.C11
import DW.Props.C12
import DW.Props.C13
import DW.Props.C14
import DW.Props.C08
import DW.Props.C20
import DW.Lemmas.C17
import DW.Props.C17
import DW.Lemmas.Names
import DW.Model.GenDump
import DW.Driver.GenDump
import DW.Lemmas.GenDumpCore
import DW.Lemmas.GenDump
import DW.Lemmas.GenDumpPy
import DW.Model.GenDumpSem
import DW.Model.GenLoad
import DW.Driver.GenLoad
import DW.Lemmas.GenLoad
import DW.Lemmas.GenLoadPy
import DW.Model.GenEnv
import DW.Driver.GenEnv
import DW.Lemmas.GenEnv
import DW.Model.GenLoadV1
import DW.Driver.GenLoadV1
import DW.Lemmas.GenLoadV1
import DW.Lemmas.GenDumpSem
import DW.Lemmas.GenDumpRefine
import DW.Lemmas.GenDumpTotal
import DW.Props.C15
import DW.Model.C16
import DW.Driver.C16
import DW.Lemmas.C16
import DW.Props.C16
import DW.Model.C18
import DW.Driver.C18
import DW.Lemmas.C18Dict
import DW.Lemmas.C18
import DW.Props.C18
import DW.Model.C19
import DW.Model.C19Spec
import DW.Driver.C19
import DW.Lemmas.C19Induct
import DW.Lemmas.C19
import DW.Lemmas.C19Scope
import DW.Props.C19
import DW.Model.Alias
import DW.Driver.Alias
import DW.Lemmas.C08
import DW.Lemmas.C08Path
import DW.Lemmas.C08Case
import DW.Model.EnvLoad
import DW.Driver.C04
import DW.Lemmas.LoadEqns
import DW.Lemmas.C04
import DW.Lemmas.V1
import DW.Lemmas.KeyLoop
import DW.Lemmas.Build
